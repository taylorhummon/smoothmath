import Lean.Meta.Tactic.Simp.RegisterCommand

/-- Computing in the monad `R = Except Err`: `>>=` on `.ok`/`.error`, `pure`, `throw`. -/
register_simp_attr rmonad
