/-
Proofs/Eval — the model's evaluator over the reals is characterised completely by the specification:
with S = "the point supplies the expression", D = "the point is in the documented domain",

  S ∧ D   ⇒ `.ok (den …)` ;   S ∧ ¬D ⇒ `.error .domain` ;   ¬S ⇒ `.error .missing` or `.error .domain`.
-/
import Smooth.Proofs.Base
import Smooth.Proofs.SRoot

namespace Smooth
open Classical
variable {β γ : Type}

def Good {β : Type} (S D : Prop) (r : R β) (v : β) : Prop :=
  (S ∧ D ∧ r = .ok v) ∨ (S ∧ ¬D ∧ r = .error .domain) ∨
    (¬S ∧ (r = .error .missing ∨ r = .error .domain))

section good
variable {S D S' D' : Prop} {r : R β} {v : β}

theorem Good.ok_iff {w : β} (h : Good S D r v) : r = .ok w ↔ S ∧ D ∧ w = v := by
  rcases h with ⟨hs, hd, rfl⟩ | ⟨hs, hd, rfl⟩ | ⟨hs, rfl | rfl⟩ <;> simp [*, eq_comm]

theorem Good.domain_iff (h : Good S D r v) (hs : S) : r = .error .domain ↔ ¬D := by
  rcases h with ⟨_, hd, rfl⟩ | ⟨_, hd, rfl⟩ | ⟨hns, _⟩
  · simp [hd]
  · simp [hd]
  · exact absurd hs hns

theorem Good.error_cases (h : Good S D r v) {err : Err} (he : r = .error err) :
    err = .domain ∨ err = .missing := by
  rcases h with ⟨_, _, rfl⟩ | ⟨_, _, rfl⟩ | ⟨_, rfl | rfl⟩ <;> cases he <;> simp

theorem Good.missing_not_supp (h : Good S D r v) (he : r = .error .missing) : ¬S := by
  rcases h with ⟨_, _, rfl⟩ | ⟨_, _, rfl⟩ | ⟨hns, _⟩
  · cases he
  · cases he
  · exact hns

/-- sequencing: of the continuation only its outcome on the value `v` matters -/
theorem Good.bind {k : β → R γ} {w : γ} (h : Good S D r v) (hk : Good S' D' (k v) w) :
    Good (S ∧ S') (D ∧ D') (r >>= k) w := by
  rcases h with ⟨hs, hd, rfl⟩ | ⟨hs, hd, rfl⟩ | ⟨hs, hr⟩
  · rcases hk with ⟨hs', hd', hr⟩ | ⟨hs', hd', hr⟩ | ⟨hs', hr⟩
    · exact .inl ⟨⟨hs, hs'⟩, ⟨hd, hd'⟩, hr⟩
    · exact .inr (.inl ⟨⟨hs, hs'⟩, fun h => hd' h.2, hr⟩)
    · exact .inr (.inr ⟨fun h => hs' h.2, hr⟩)
  · by_cases hs' : S'
    · exact .inr (.inl ⟨⟨hs, hs'⟩, fun h => hd h.1, rfl⟩)
    · exact .inr (.inr ⟨fun h => hs' h.2, .inr rfl⟩)
  · refine .inr (.inr ⟨fun h => hs h.1, ?_⟩)
    rcases hr with rfl | rfl
    exacts [.inl rfl, .inr rfl]

theorem Good.bind_guard {k : β → R γ} {w : γ} {G : Prop} {dG : Decidable G} (h : Good S D r v)
    (hk : k v = if G then .ok w else .error .domain) : Good S (D ∧ G) (r >>= k) w := by
  have hk' : Good True G (k v) w := by
    rw [hk]
    split
    · next hg => exact .inl ⟨trivial, hg, rfl⟩
    · next hg => exact .inr (.inl ⟨trivial, hg, rfl⟩)
  simpa only [and_true] using h.bind hk'

theorem Good.bind_ok {k : β → R γ} {w : γ} (h : Good S D r v) (hk : k v = .ok w) :
    Good S D (r >>= k) w := by
  simpa only [and_true] using h.bind_guard (dG := instDecidableTrue) (hk.trans (if_pos trivial).symm)

end good

theorem guard_then {G : Prop} {_ : Decidable G} {c : R Unit} {r : R β} {w : β}
    (hc : c = if G then .ok () else .error .domain) (hr : G → r = .ok w) :
    (c >>= fun _ => r) = if G then .ok w else .error .domain := by
  subst hc
  split
  · next hg => exact hr hg
  · rfl

/-! ### `math_functions.py` and the domain checks over the reals -/

theorem mulGo_real (acc : ℝ) (xs : List ℝ) : mulGo realNum acc xs = acc * xs.prod := by
  induction xs generalizing acc with
  | nil => simp [mulGo]
  | cons x xs ih =>
    simp only [mulGo, realNum_isZero, decide_eq_true_eq, realNum_zero, realNum_mul, List.prod_cons]
    split
    · next h => simp [h]
    · rw [ih]; ring

@[simp] theorem mfMultiply_real (xs : List ℝ) : mfMultiply realNum xs = xs.prod := by
  simp [mfMultiply, mulGo_real]

theorem foldl_add_real (acc : ℝ) (xs : List ℝ) : xs.foldl realNum.add acc = acc + xs.sum := by
  induction xs generalizing acc with
  | nil => simp
  | cons x xs ih => simp only [List.foldl_cons, realNum_add, List.sum_cons]; rw [ih]; ring

@[simp] theorem mfAdd_real (xs : List ℝ) : mfAdd realNum xs = xs.sum := by
  simp [mfAdd, sumL, foldl_add_real]

@[simp] theorem mfMinus_real (x y : ℝ) : mfMinus realNum x y = x - y := rfl
@[simp] theorem mfNegation_real (x : ℝ) : mfNegation realNum x = -x := rfl

/-- the two tests `x == 0`, `x < 0` together -/
theorem ite_zero_neg (a : ℝ) (x y : β) :
    (if a = 0 then x else if a < 0 then x else y) = if 0 < a then y else x := by
  rcases lt_trichotomy a 0 with h | h | h
  · simp [h, h.ne, h.not_gt]
  · simp [h]
  · simp [h, h.ne', h.not_gt]

theorem verifyDivide_real (a b : ℝ) :
    verifyDivide realNum a b = if b ≠ 0 then .ok () else .error .domain := by
  simp only [verifyDivide, realNum_isZero, decide_eq_true_eq, rmonad, ite_not]

theorem verifyReciprocal_real (a : ℝ) :
    verifyReciprocal realNum a = if a ≠ 0 then .ok () else .error .domain := by
  simp only [verifyReciprocal, realNum_isZero, decide_eq_true_eq, rmonad, ite_not]

theorem verifyPower_real (a b : ℝ) :
    verifyPower realNum a b = if 0 < a then .ok () else .error .domain := by
  simp only [verifyPower, realNum_isZero, realNum_isNeg, decide_eq_true_eq, rmonad, ite_zero_neg]

theorem verifyLogarithm_real (a : ℝ) :
    verifyLogarithm realNum a = if 0 < a then .ok () else .error .domain := by
  simp only [verifyLogarithm, realNum_isZero, realNum_isNeg, decide_eq_true_eq, rmonad,
    ite_zero_neg]

/-- the documented domain of the n-th root, on the operand's value -/
def RootOK (n : ℕ) (a : ℝ) : Prop := (2 ≤ n → a ≠ 0) ∧ (n % 2 = 0 → 0 ≤ a)

theorem verifyNthRoot_real (n : ℕ) (a : ℝ) :
    verifyNthRoot realNum n a = if RootOK n a then .ok () else .error .domain := by
  have h : RootOK n a ↔ ¬(2 ≤ n ∧ a = 0) ∧ ¬(n % 2 = 0 ∧ a < 0) := by
    simp only [RootOK, not_and, not_lt, ne_eq]
  simp only [verifyNthRoot, Bool.and_eq_true, decide_eq_true_eq, realNum_isZero, realNum_isNeg,
    rmonad, h, ge_iff_le]
  by_cases h1 : 2 ≤ n ∧ a = 0
  · simp only [h1, and_self, not_true, false_and, if_true, if_false]
  · by_cases h2 : n % 2 = 0 ∧ a < 0
    · simp only [h1, h2, and_self, not_true, and_false, if_true, if_false]
    · simp only [h1, h2, not_false_eq_true, and_self, if_true, if_false]

theorem pyTrueDiv_real {x y : ℝ} (hy : y ≠ 0) : pyTrueDiv realNum x y = .ok (x / y) := by
  simp [pyTrueDiv, hy, rmonad]

theorem pyPow_real_pos {x : ℝ} (y : ℝ) (hx : 0 < x) : pyPow realNum x y = .ok (x ^ y) := by
  simp [pyPow, hx.ne', hx.not_gt]

theorem mfDivide_real {x y : ℝ} (hy : y ≠ 0) : mfDivide realNum x y = .ok (x / y) := by
  simp [mfDivide, hy, pyTrueDiv_real hy]

theorem mfReciprocal_real {x : ℝ} (hx : x ≠ 0) : mfReciprocal realNum x = .ok x⁻¹ := by
  simp [mfReciprocal, hx, pyTrueDiv_real hx]

theorem mfPower_pos {a : ℝ} (ha : 0 < a) (y : ℝ) : mfPower realNum a y = .ok (a ^ y) := by
  simp [mfPower, ha.ne', ha.not_gt, pyPow_real_pos y ha]

theorem mfNthPower_real {n : ℕ} (hn : 1 ≤ n) (a : ℝ) : mfNthPower realNum a n = .ok (a ^ n) := by
  simp [mfNthPower, Nat.ne_of_gt hn, rmonad]

theorem mfExponential_real {b : ℝ} (hb : 0 < b) (a : ℝ) :
    mfExponential realNum a b = .ok (Real.exp (a * Real.log b)) := by
  simp [mfExponential, hb.ne', hb.not_gt, pyPow_real_pos a hb, Real.rpow_def_of_pos hb, mul_comm]

theorem mfLogarithm_real {b : ℝ} (hb : 0 < b) (hb1 : b ≠ 1) {a : ℝ} (ha : 0 < a) :
    mfLogarithm realNum a b = .ok (Real.log a / Real.log b) := by
  simp [mfLogarithm, pyLog, hb.ne', hb.not_gt, ha.ne', ha.not_gt, hb1]

/-- the default base `e` is a legal base for both `Exponential` and `Logarithm` -/
theorem exp_one_gt_one : (1 : ℝ) < Real.exp 1 := by
  have := Real.add_one_lt_exp (x := 1) one_ne_zero
  linarith

theorem exp_one_ne_one : Real.exp 1 ≠ 1 := ne_of_gt exp_one_gt_one

theorem mfLogarithm_base_e {a : ℝ} (ha : 0 < a) :
    mfLogarithm realNum a (Real.exp 1) = .ok (Real.log a) := by
  rw [mfLogarithm_real (Real.exp_pos 1) exp_one_ne_one ha, Real.log_exp, div_one]

/-! #### the n-th root: `math.sqrt`, `math.cbrt` and `**` all compute the sign-keeping root -/

theorem cbrt_real (x : ℝ) : realNum.cbrt x = .ok (sroot 3 x) := by
  simp only [realNum_cbrt, sroot, Nat.cast_ofNat]

theorem pySqrt_real {x : ℝ} (hx : 0 < x) : pySqrt realNum x = .ok (sroot 2 x) := by
  simp [pySqrt, hx.not_gt, sroot_of_nonneg 2 hx.le, Real.sqrt_eq_rpow]

theorem pyPow_invNat {x : ℝ} (hx : 0 < x) (n : ℕ) :
    pyPow realNum x (invNat realNum n) = .ok (sroot n x) := by
  simp [pyPow_real_pos _ hx, sroot_of_nonneg n hx.le, invNat]

theorem mfNthRoot_real {n : ℕ} (hn : 1 ≤ n) {a : ℝ} (hok : RootOK n a) :
    mfNthRoot realNum a n = .ok (sroot n a) := by
  unfold mfNthRoot
  rw [if_neg (Nat.ne_of_gt hn)]
  by_cases h1 : n = 1
  · rw [if_pos h1, h1, sroot_one]; rfl
  rw [if_neg h1]
  rcases lt_trichotomy a 0 with ha | rfl | ha
  · -- negative operand: `n` is odd, and the code takes the root of `-a`
    have hodd : n % 2 ≠ 0 := fun h => absurd (hok.2 h) (not_le.mpr ha)
    have h2 : n ≠ 2 := fun h => hodd (by rw [h])
    have hflip : sroot n a = -sroot n (-a) := by rw [sroot_neg hn, neg_neg]
    simp only [realNum_isPos, realNum_isZero, ha.not_gt, ha.ne, decide_false, Bool.false_eq_true,
      if_false, hodd, h2, realNum_neg, cbrt_real, pyPow_invNat (neg_pos.mpr ha), rmonad, hflip]
    by_cases h3 : n = 3
    · rw [if_pos h3, h3]
    · rw [if_neg h3]
  · exact absurd rfl (hok.1 (by omega))
  · simp only [realNum_isPos, ha, decide_true, if_true, pySqrt_real ha, cbrt_real,
      pyPow_invNat ha, ite_self]
    by_cases h2 : n = 2
    · rw [if_pos h2, h2]
    rw [if_neg h2]
    by_cases h3 : n = 3
    · rw [if_pos h3, h3]
    · rw [if_neg h3]

theorem nthRoot_real {n : ℕ} (hn : 1 ≤ n) (a : ℝ) :
    (do verifyNthRoot realNum n a; mfNthRoot realNum a n) =
      if RootOK n a then .ok (sroot n a) else .error .domain :=
  guard_then (verifyNthRoot_real n a) (mfNthRoot_real hn)

theorem valOf_get {p : Point ℝ} {x : String} {v : ℝ} (h : p.get? x = some v) : valOf p x = v := by
  simp [valOf, h]

private theorem evalR_good_list_aux (p : Point ℝ) (es : List (Expr ℝ))
    (h : ∀ e ∈ es, WF e →
      Good (Supp p e) (Dom (valOf p) e) (evalG realNum p e) (den (valOf p) e)) :
    WFList es →
      Good (SuppList p es) (DomList (valOf p) es) (evalListG realNum p es)
        (denList (valOf p) es) := by
  induction es with
  | nil => exact fun _ => .inl ⟨trivial, trivial, rfl⟩
  | cons e es ih =>
    intro hwf
    simp only [evalListG, SuppList, DomList, denList]
    exact (h e List.mem_cons_self hwf.1).bind
      ((ih (fun a ha => h a (List.mem_cons_of_mem _ ha)) hwf.2).bind_ok rfl)

theorem evalR_good (p : Point ℝ) (e : Expr ℝ) (hwf : WF e) :
    Good (Supp p e) (Dom (valOf p) e) (evalG realNum p e) (den (valOf p) e) := by
  induction e using Expr.ind with
  | const f v => exact .inl ⟨trivial, trivial, rfl⟩
  | var f x =>
    simp only [evalG, Supp, Dom, den, valOf]
    cases p.get? x with
    | none => exact .inr (.inr ⟨Bool.false_ne_true, .inl rfl⟩)
    | some v => exact .inl ⟨rfl, trivial, rfl⟩
  | add f as ih =>
    simp only [evalG, Supp, Dom, den]
    exact (evalR_good_list_aux p as ih hwf).bind_ok (congrArg Except.ok (mfAdd_real _))
  | mul f as ih =>
    simp only [evalG, Supp, Dom, den]
    exact (evalR_good_list_aux p as ih hwf).bind_ok (congrArg Except.ok (mfMultiply_real _))
  | minus f l r ihl ihr =>
    simp only [evalG, Supp, Dom, den]
    exact (ihl hwf.1).bind ((ihr hwf.2).bind_ok rfl)
  | div f l r ihl ihr =>
    simp only [evalG, Supp, Dom, den]
    exact (ihl hwf.1).bind ((ihr hwf.2).bind_guard
      (guard_then (verifyDivide_real _ _) mfDivide_real))
  | pow f l r ihl ihr =>
    simp only [evalG, Supp, Dom, den]
    exact (ihl hwf.1).bind ((ihr hwf.2).bind_guard (guard_then (verifyPower_real _ _) fun h => by
      rw [mfPower_pos h, Real.rpow_def_of_pos h, mul_comm]))
  | neg f u ih | cos f u ih | sin f u ih =>
    simp only [evalG, Supp, Dom, den]
    exact (ih hwf).bind_ok rfl
  | recip f u ih =>
    simp only [evalG, Supp, Dom, den]
    exact (ih hwf).bind_guard (guard_then (verifyReciprocal_real _) mfReciprocal_real)
  | npow f u n ih =>
    simp only [evalG, Supp, Dom, den]
    exact (ih hwf.2).bind_ok (mfNthPower_real hwf.1 _)
  | nroot f u n ih =>
    simp only [evalG, Supp, Dom, den]
    exact (ih hwf.2).bind_guard (nthRoot_real hwf.1 _)
  | exp f u b ih =>
    simp only [evalG, Supp, Dom, den]
    exact (ih hwf.2).bind_ok (mfExponential_real hwf.1 _)
  | log f u b ih =>
    simp only [evalG, Supp, Dom, den]
    exact (ih hwf.2.2).bind_guard
      (guard_then (verifyLogarithm_real _) (mfLogarithm_real hwf.1 hwf.2.1))

theorem evalR_good_list (p : Point ℝ) (es : List (Expr ℝ)) : WFList es →
    Good (SuppList p es) (DomList (valOf p) es) (evalListG realNum p es) (denList (valOf p) es) :=
  evalR_good_list_aux p es fun e _ => evalR_good p e

end Smooth
