/-
Proofs/NoEvenRootOK — the K1 side condition of the soundness theorems about simplification
(`StepOK/RunOK/NormOK/NormRedOK K1FreeAt …`, Proofs/DriverSound) is a statement about the run of the
rewriter.  Here it is discharged from the syntactic condition `NoEvenRoot e` on the input:

* the redex of a step is a node of the stepped expression (possibly with `_evaluation_failed` set), so
  it has no even root either;
* a redex `NthRoot(NthPower(u, m), n)` without even root has `n` odd, hence is not an instance of K1;
* every step, the loop, and the normal-form pass keep `NoEvenRoot` (Proofs/NoEvenRoot), so the
  argument repeats along the whole run.

Then the unconditional corollaries over the reals (statement side: Properties/C08odd).
-/
import Smooth.Proofs.NoEvenRoot
import Smooth.Proofs.NoEvenRootSym
import Smooth.Proofs.SymForward
import Smooth.Proofs.Replay

namespace Smooth
open Expr

theorem ner_k1Free {e : Expr ℝ} (h : NoEvenRoot e) : K1Free e := by
  unfold K1Free
  split
  · have := h.nroot_odd
    omega
  · trivial

theorem ner_k1FreeAt (r : RuleId) {e : Expr ℝ} (h : NoEvenRoot e) : K1FreeAt r e := by
  unfold K1FreeAt
  split
  · exact ner_k1Free h
  · trivial

theorem ner_stepRedex (e : Expr ℝ) (he : NoEvenRoot e) (r : RuleId) (e₀ : Expr ℝ)
    (h : stepRedex e = some (r, e₀)) : NoEvenRoot e₀ := by
  obtain ⟨s, hs, rfl | rfl⟩ := stepRedex_sub h
  · exact fun f u n ht => he f u n (ht.trans hs)
  · exact (ner_setFlags _ s).mpr fun f u n ht => he f u n (ht.trans hs)

theorem ner_listRedex : ∀ as : List (Expr ℝ), (∀ a ∈ as, NoEvenRoot a) →
    ∀ c, listRedex as = some c → ∀ r e₀, c = some (r, e₀) → NoEvenRoot e₀ := by
  intro as has c hc r e₀ h
  obtain ⟨a, ha, rfl⟩ := listRedex_eq_some hc
  exact ner_stepRedex a (has a ha) r e₀ h

theorem ner_stepOK {e : Expr ℝ} (h : NoEvenRoot e) : StepOK K1FreeAt e :=
  fun r e₀ hr => ner_k1FreeAt r (ner_stepRedex e h r e₀ hr)

theorem ner_runOK (bound : Nat) {e : Expr ℝ} (h : NoEvenRoot e) : RunOK K1FreeAt bound e :=
  runOK_of_driverClosed (ner_driverClosed realNum) (fun _ => ner_stepOK) bound h

theorem ner_normOK (bound fuel : Nat) {e : Expr ℝ} (h : NoEvenRoot e) :
    NormOK K1FreeAt bound fuel e :=
  (normOK_of_driverClosed (ner_driverClosed realNum) (fun _ => ner_stepOK) bound fuel).1 e h

theorem ner_normRedOK (bound fuel : Nat) {e : Expr ℝ} (h : NoEvenRoot e) :
    NormRedOK K1FreeAt bound fuel e :=
  (normOK_of_driverClosed (ner_driverClosed realNum) (fun _ => ner_stepOK) bound fuel).2 e h

theorem ner_rule_refines (r : RuleId) {e e' : Expr ℝ} (h : r.apply realNum e = some e')
    (hs : NoEvenRoot e) : Refines e e' :=
  rule_refines r e e' h (ner_k1FreeAt r hs)

theorem ner_step_refines {e : Expr ℝ} (h : NoEvenRoot e) : Refines e (stepF realNum e).1 :=
  step_refines rule_refines e (ner_stepOK h)

theorem ner_fullyReduce_refines (bound : Nat) {e : Expr ℝ} (h : NoEvenRoot e) :
    Refines e (fullyReduceWith realNum bound e).expr :=
  fullyReduce_refines rule_refines bound e (ner_runOK bound h)

theorem ner_normReduced_refines (bound fuel : Nat) {e e' : Expr ℝ} {w : Bool} (hs : NoEvenRoot e)
    (h : normReducedF realNum bound fuel e = some (e', w)) : Refines e e' :=
  normReduced_refines rule_refines bound fuel e e' w (ner_normRedOK bound fuel hs) h

theorem ner_normalize_refines (bound fuel : Nat) {e e' : Expr ℝ} {w : Bool} (hs : NoEvenRoot e)
    (h : normalizeF realNum bound fuel e = some (e', w)) : Refines e e' :=
  normalize_refines rule_refines bound fuel e e' w (ner_normOK bound fuel hs) h

/-- `_retrieve_synthetic_partial` on an expression without even roots: the normalised expression
refines the raw symbolic partial, and has no even root either -/
theorem ner_retrieveSyntheticPartial {e : Expr ℝ} (hs : NoEvenRoot e) (x : String) {s : Expr ℝ}
    {w : Bool} (h : retrieveSyntheticPartial realNum e x = .ok (s, w)) :
    Refines (symFwd realNum x e) s ∧ NoEvenRoot s := by
  have hs' := ner_symFwd realNum x e hs
  exact ⟨retrieveSyntheticPartial_refines e x s w (ner_normOK _ _ hs') h,
    ner_normalize realNum hs' (symfwd_liftFuel_ok h)⟩

/-- the side condition of the theorems about `Differential(e, compute_early=True)` -/
theorem ner_syntheticPartials_normOK {e : Expr ℝ} (hs : NoEvenRoot e) : ∀ y s,
    SAcc.get? (syntheticPartials realNum e) y = some s →
      NormOK K1FreeAt REDUCTION_STEPS_BOUND NORMALIZE_FUEL s :=
  fun _ _ hget => ner_normOK _ _ (ner_syntheticPartials realNum hs hget)

theorem ner_normalizeAll {α : Type} (N : Num α) : ∀ {acc d : SAcc α} {w : Bool},
    normalizeAll N acc = .ok (d, w) → NerA acc → NerA d := by
  intro acc d w h ha y s' hy
  have := normalizeAll_get? N h y
  cases hg : SAcc.get? acc y with
  | none => rw [hg] at this; rw [this] at hy; cases hy
  | some s =>
    rw [hg] at this
    obtain ⟨s'', w', hn, hd⟩ := this
    rw [hd] at hy
    injection hy with hy
    subst hy
    exact ner_normalize N (ha y s hg) hn

/-- `Partial.as_expression()` on an expression without even roots — no side condition -/
theorem ner_asExpression_sound {e : Expr ℝ} {x : String} (hwf : WF e) (hner : NoEvenRoot e)
    {s : Expr ℝ} {P' : PartialObj ℝ} {w : Bool}
    (h : (PartialObj.mk e x none).asExpression realNum = .ok (s, P', w)) :
    Refines (symFwd realNum x e) s ∧ P' = ⟨e, x, some s⟩ ∧
      WF s ∧ (∀ y, y ∈ s.vars → y ∈ e.vars) ∧ (∀ p : Point ℝ, Supp p e → Supp p s) ∧
      (∀ ρ : String → ℝ, Dom ρ e →
        Dom ρ s ∧ HasDerivAt (fun t => den (upd ρ x t) e) (den ρ s) (ρ x)) ∧
      (∀ p : Point ℝ, Supp p e → Dom (valOf p) e → evalG realNum p s = fwdG realNum p x e) ∧
      NoEvenRoot s := by
  obtain ⟨hret, hP⟩ := asExpression_late h
  obtain ⟨hr, hs⟩ := ner_retrieveSyntheticPartial hner x hret
  obtain ⟨h1, h2, h3, h4, h5⟩ := refines_symFwd_facts hr hwf
  exact ⟨hr, hP, h1, h2, h3, h4, h5, hs⟩

/-- `Partial(e, x, compute_early=True)` on an expression without even roots -/
theorem ner_partialNew_early_sound {e : Expr ℝ} {x : String} (hwf : WF e) (hner : NoEvenRoot e)
    {P : PartialObj ℝ} {w : Bool} (h : PartialObj.new realNum e x true = .ok (P, w)) :
    ∃ s, P = ⟨e, x, some s⟩ ∧ Refines (symFwd realNum x e) s ∧ WF s ∧ NoEvenRoot s ∧
      (∀ ρ : String → ℝ, Dom ρ e →
        Dom ρ s ∧ HasDerivAt (fun t => den (upd ρ x t) e) (den ρ s) (ρ x)) := by
  obtain ⟨s, hret, hP⟩ := partialNew_early h
  obtain ⟨hr, hs⟩ := ner_retrieveSyntheticPartial hner x hret
  obtain ⟨h1, _, _, h4, _⟩ := refines_symFwd_facts hr hwf
  exact ⟨s, hP, hr, h1, hs, h4⟩

/-- `Differential(e, compute_early=True)` on an expression without even roots — no side
condition: what it stores, that every stored component refines the raw reverse-mode one (and is again
well formed and free of even roots), and that on the domain of `e` every component evaluates to the
forward-mode partial (C03: the true partial derivative), also through `component_at` -/
theorem ner_differential_early_sound {e : Expr ℝ} (hwf : WF e) (hner : NoEvenRoot e)
    {D : DifferentialObj ℝ} {w : Bool} (hnew : DifferentialObj.new realNum e true = .ok (D, w)) :
    ∃ d, D = ⟨e, some d⟩ ∧ normalizeAll realNum (syntheticPartials realNum e) = .ok (d, w) ∧
      (∀ y, y ∉ e.vars → SAcc.get? d y = none) ∧
      (∀ y ∈ e.vars, ∃ s s', SAcc.get? (syntheticPartials realNum e) y = some s ∧
        SAcc.get? d y = some s' ∧ Refines s s' ∧ WF s' ∧ NoEvenRoot s') ∧
      (∀ p : Point ℝ, Supp p e → Dom (valOf p) e →
        (∀ y s', SAcc.get? d y = some s' → evalG realNum p s' = fwdG realNum p y e) ∧
        ∀ y, D.componentAt realNum y p = fwdG realNum p y e) := by
  have hok := ner_syntheticPartials_normOK hner
  obtain ⟨d, hnorm, hD⟩ := differentialNew_early realNum e hnew
  have href := normalizeAll_refines hnorm hok
  have hnerA : NerA (syntheticPartials realNum e) :=
    fun y s hget => ner_syntheticPartials realNum hner hget
  have hnerD := ner_normalizeAll realNum hnorm hnerA
  refine ⟨d, hD, hnorm, href.1, fun y hy => ?_, fun p hs hd => ⟨fun y s' hget => ?_, fun y => ?_⟩⟩
  · obtain ⟨s, s', h1, h2, h3⟩ := href.2 y hy
    exact ⟨s, s', h1, h2, h3, h3.wf (SAccWF_get? (WF_syntheticPartials e hwf) h1), hnerD y s' h2⟩
  · exact normalizeAll_eval hwf hs hd hnorm hok hget
  · exact differential_early_componentAt hwf hs hd hnew hok y

/-! ### the condition is sufficient, not necessary -/

/-- `NthRoot(x, 2)` : an even root, but never a K1 redex -/
def nerExSqrt : Expr ℝ := mkNRoot (mkVar "x") 2

theorem nerExSqrt_not_ner : ¬ NoEvenRoot nerExSqrt := by simp [nerExSqrt]

/-- `_fully_reduce` on `NthRoot(x, 2)` flags the variable, then the root: no rule fires -/
theorem nerExSqrt_run :
    ReplaySteps realNum nerExSqrt [.flag, .flag] (.nroot .reduced (.var .reduced "x") 2) :=
  ((ReplaySteps.var "x").congr (isCtx_nroot 2)).append (.flag rfl (by simp [vars, varsAux]) rfl)

/-- the whole `_fully_reduce` run on `NthRoot(x, 2)` is K1-free, for every budget -/
theorem nerExSqrt_runOK (bound : Nat) : RunOK K1FreeAt bound nerExSqrt :=
  nerExSqrt_run.runOK rfl (by simp) bound

/-- the result of `_fully_reduce` on `NthRoot(x, 2)` is the same tree up to flags, for every budget
(a budget of at most two steps is used up, and the loop flags the root of what it has) -/
theorem nerExSqrt_fullyReduce (bound : Nat) :
    ∃ f g, (fullyReduceWith realNum bound nerExSqrt).expr = .nroot f (.var g "x") 2 := by
  by_cases hb : 2 < bound
  · exact ⟨_, _, congrArg ReduceResult.expr (nerExSqrt_run.fullyReduce rfl hb)⟩
  · obtain rfl | rfl | rfl : bound = 0 ∨ bound = 1 ∨ bound = 2 := by omega
    all_goals exact ⟨_, _, rfl⟩

theorem nerEx_normRedOK_nroot_var (A : RuleId → Expr ℝ → Prop) (bound : Nat) (f g : Flags)
    (x : String) (n : Nat) : ∀ fuel, NormRedOK A bound fuel (.nroot f (.var g x) n)
  | 0 => by simp [NormRedOK]
  | 1 => by simp [NormRedOK]
  | _ + 2 => by simp [NormRedOK]

/-- so is the whole `_normalize` run, for every budget and fuel: the K1 side condition holds
although the syntactic condition `NoEvenRoot` does not -/
theorem nerExSqrt_normOK (bound : Nat) : ∀ fuel, NormOK K1FreeAt bound fuel nerExSqrt
  | 0 => by simp [NormOK]
  | fuel + 1 => by
    simp only [NormOK]
    refine ⟨nerExSqrt_runOK bound, ?_⟩
    obtain ⟨f, g, h⟩ := nerExSqrt_fullyReduce bound
    rw [h]
    exact nerEx_normRedOK_nroot_var _ _ _ _ _ _ _

end Smooth
