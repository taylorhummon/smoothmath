/-
The number instances the driver actually runs never answer `missing` from a primitive:
`qeNum` (exact rationals) answers a value or `unsupported`; `fbNum mode` (doubles with an error
bound) always answers a value.  Hence every `NoMissing`-conditional statement of Proofs/Coords.lean
holds for the runs the correspondence check compares with the implementation.
-/
import Smooth.Model.Instances
import Smooth.Proofs.Coords

namespace Smooth

theorem noMissing_fbNum (mode : Nat) : NoMissing (fbNum mode) where
  rpow _ _ := NM.pure _
  sqrt _ := NM.pure _
  cbrt _ := NM.pure _
  logb _ _ := NM.pure _
  sin _ := NM.pure _
  cos _ := NM.pure _

theorem nm_unsupported {β : Type} : NM (throw Err.unsupported : R β) := NM.throw (by decide)

/-- every primitive of `qeNum` is a case distinction whose branches end in `pure _` or
`throw .unsupported` -/
theorem noMissing_qeNum : NoMissing qeNum := by
  constructor
  · intro x y
    refine NM.ite (NM.pure _) <| NM.ite nm_unsupported <|
      NM.ite (NM.ite nm_unsupported (NM.ite (NM.pure _) (NM.pure _))) <|
      NM.ite (NM.pure _) <| NM.ite ?_ nm_unsupported
    split
    exacts [NM.pure _, nm_unsupported]
  · intro x
    refine NM.ite nm_unsupported ?_
    split
    exacts [NM.pure _, nm_unsupported]
  · intro x
    dsimp only [qeNum]
    split
    exacts [NM.pure _, nm_unsupported]
  · intro x b
    refine NM.ite (NM.pure _) <| NM.ite nm_unsupported ?_
    split
    exacts [NM.pure _, nm_unsupported]
  · exact fun x => NM.ite (NM.pure _) nm_unsupported
  · exact fun x => NM.ite (NM.pure _) nm_unsupported

end Smooth
