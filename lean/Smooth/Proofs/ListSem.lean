/-
Proofs/ListSem — the specification read node by node.  Argument lists of `Add`/`Multiply` are read
element-wise (Proofs/Vars: `denList` is a `map`, `DomList`/`WFList`/`SuppList` are "for every member"); flags
do not matter; and what `WF`, `Supp`, `Dom`, `den` say of a node is a function of the class of the node and of
what they say of its operands (`wf_node` … `den_node`).  Hence `Refines.rebuild`: a node is refined by the
node of the same class around refined operands.
-/
import Smooth.Proofs.Refines
import Smooth.Proofs.Vars
import Smooth.Proofs.Shape

namespace Smooth
open Expr

theorem denList_append (ρ : String → ℝ) (as bs : List (Expr ℝ)) :
    denList ρ (as ++ bs) = denList ρ as ++ denList ρ bs := by
  simp only [denList_eq_map, List.map_append]

theorem domList_append (ρ : String → ℝ) (as bs : List (Expr ℝ)) :
    DomList ρ (as ++ bs) ↔ DomList ρ as ∧ DomList ρ bs := by
  simp only [domList_iff, List.forall_mem_append]

theorem wfList_append (as bs : List (Expr ℝ)) : WFList (as ++ bs) ↔ WFList as ∧ WFList bs := by
  simp only [wfList_iff, List.forall_mem_append]

theorem suppList_append {α : Type} (p : Point α) (as bs : List (Expr α)) :
    SuppList p (as ++ bs) ↔ SuppList p as ∧ SuppList p bs := by
  simp only [suppList_iff, List.forall_mem_append]

@[simp] theorem den_setFlags (ρ : String → ℝ) (g : Flags) (e : Expr ℝ) :
    den ρ (e.setFlags g) = den ρ e := by
  cases e <;> rfl

@[simp] theorem dom_setFlags (ρ : String → ℝ) (g : Flags) (e : Expr ℝ) :
    Dom ρ (e.setFlags g) ↔ Dom ρ e := by
  cases e <;> exact Iff.rfl

@[simp] theorem wf_setFlags (g : Flags) (e : Expr ℝ) : WF (e.setFlags g) ↔ WF e := by
  cases e <;> exact Iff.rfl

@[simp] theorem supp_setFlags {α : Type} (p : Point α) (g : Flags) (e : Expr α) :
    Supp p (e.setFlags g) ↔ Supp p e := by
  cases e <;> exact Iff.rfl

@[simp] theorem vars_setFlags {α : Type} (g : Flags) (e : Expr α) :
    (e.setFlags g).vars = e.vars := by
  cases e <;> rfl

@[simp] theorem den_markRed (ρ : String → ℝ) (e : Expr ℝ) : den ρ e.markRed = den ρ e :=
  den_setFlags ρ _ e
@[simp] theorem dom_markRed (ρ : String → ℝ) (e : Expr ℝ) : Dom ρ e.markRed ↔ Dom ρ e :=
  dom_setFlags ρ _ e
@[simp] theorem wf_markRed (e : Expr ℝ) : WF e.markRed ↔ WF e := wf_setFlags _ e
@[simp] theorem supp_markRed {α : Type} (p : Point α) (e : Expr α) : Supp p e.markRed ↔ Supp p e :=
  supp_setFlags p _ e
@[simp] theorem den_markFailed (ρ : String → ℝ) (e : Expr ℝ) : den ρ e.markFailed = den ρ e :=
  den_setFlags ρ _ e
@[simp] theorem dom_markFailed (ρ : String → ℝ) (e : Expr ℝ) : Dom ρ e.markFailed ↔ Dom ρ e :=
  dom_setFlags ρ _ e
@[simp] theorem wf_markFailed (e : Expr ℝ) : WF e.markFailed ↔ WF e := wf_setFlags _ e
@[simp] theorem supp_markFailed {α : Type} (p : Point α) (e : Expr α) :
    Supp p e.markFailed ↔ Supp p e :=
  supp_setFlags p _ e

/-- two expressions with the same reading: same well-formedness, same supplying points, same domain,
same value.  (What `setFlags` produces, and what a recogniser `as… e = some …` says about `e`.) -/
structure SameSem (e e' : Expr ℝ) : Prop where
  wf : WF e ↔ WF e'
  supp : ∀ p : Point ℝ, Supp p e ↔ Supp p e'
  dom : ∀ ρ, Dom ρ e ↔ Dom ρ e'
  den : ∀ ρ, den ρ e = den ρ e'

theorem SameSem.refl (e : Expr ℝ) : SameSem e e := ⟨Iff.rfl, fun _ => Iff.rfl, fun _ => Iff.rfl, fun _ => rfl⟩

theorem SameSem.symm {e e' : Expr ℝ} (h : SameSem e e') : SameSem e' e :=
  ⟨h.wf.symm, fun p => (h.supp p).symm, fun ρ => (h.dom ρ).symm, fun ρ => (h.den ρ).symm⟩

theorem SameSem.refines {e e' : Expr ℝ} (h : SameSem e e') : Refines e e' :=
  ⟨h.wf.mp, fun p => (h.supp p).mp, fun _ ρ hd => ⟨(h.dom ρ).mp hd, (h.den ρ).symm⟩⟩

theorem sameSem_setFlags (g : Flags) (e : Expr ℝ) : SameSem e (e.setFlags g) :=
  ⟨(wf_setFlags g e).symm, fun p => (supp_setFlags p g e).symm, fun ρ => (dom_setFlags ρ g e).symm,
    fun ρ => (den_setFlags ρ g e).symm⟩

theorem setFlags_refines (g : Flags) (e : Expr ℝ) : Refines e (e.setFlags g) :=
  (sameSem_setFlags g e).refines
theorem refines_setFlags (g : Flags) (e : Expr ℝ) : Refines (e.setFlags g) e :=
  (sameSem_setFlags g e).symm.refines
theorem markRed_refines (e : Expr ℝ) : Refines e e.markRed := setFlags_refines _ e
theorem markFailed_refines (e : Expr ℝ) : Refines e e.markFailed := setFlags_refines _ e

/-- `Refines`, for argument lists: element values are kept position by position -/
structure RefinesList (es es' : List (Expr ℝ)) : Prop where
  wf : WFList es → WFList es'
  supp : ∀ p : Point ℝ, SuppList p es → SuppList p es'
  sem : WFList es → ∀ ρ : String → ℝ, DomList ρ es → DomList ρ es' ∧ denList ρ es' = denList ρ es

theorem RefinesList.refl (es : List (Expr ℝ)) : RefinesList es es :=
  ⟨id, fun _ h => h, fun _ _ h => ⟨h, rfl⟩⟩

theorem RefinesList.cons {e e' : Expr ℝ} {es es' : List (Expr ℝ)} (h1 : Refines e e')
    (h2 : RefinesList es es') : RefinesList (e :: es) (e' :: es') where
  wf h := ⟨h1.wf h.1, h2.wf h.2⟩
  supp p h := ⟨h1.supp p h.1, h2.supp p h.2⟩
  sem hwf ρ hd := by
    obtain ⟨d1, e1⟩ := h1.sem hwf.1 ρ hd.1
    obtain ⟨d2, e2⟩ := h2.sem hwf.2 ρ hd.2
    exact ⟨⟨d1, d2⟩, by rw [denList, denList, e1, e2]⟩

theorem RefinesList.append {as as' bs bs' : List (Expr ℝ)} (h1 : RefinesList as as')
    (h2 : RefinesList bs bs') : RefinesList (as ++ bs) (as' ++ bs') where
  wf h := (wfList_append _ _).mpr ⟨h1.wf ((wfList_append _ _).mp h).1, h2.wf ((wfList_append _ _).mp h).2⟩
  supp p h := (suppList_append p _ _).mpr
    ⟨h1.supp p ((suppList_append p _ _).mp h).1, h2.supp p ((suppList_append p _ _).mp h).2⟩
  sem hwf ρ hd := by
    obtain ⟨w1, w2⟩ := (wfList_append _ _).mp hwf
    obtain ⟨d1, d2⟩ := (domList_append ρ _ _).mp hd
    obtain ⟨d1', e1⟩ := h1.sem w1 ρ d1
    obtain ⟨d2', e2⟩ := h2.sem w2 ρ d2
    exact ⟨(domList_append ρ _ _).mpr ⟨d1', d2'⟩, by rw [denList_append, denList_append, e1, e2]⟩

theorem RefinesList.replace {e e' : Expr ℝ} (pre post : List (Expr ℝ)) (h : Refines e e') :
    RefinesList (pre ++ e :: post) (pre ++ e' :: post) :=
  (RefinesList.refl pre).append (RefinesList.cons h (RefinesList.refl post))

/-- what `WF` asks of the node itself: of its exponent, degree or base -/
def WFNode : Expr ℝ → Prop
  | .npow _ _ n | .nroot _ _ n => 1 ≤ n
  | .exp _ _ b => 0 < b
  | .log _ _ b => 0 < b ∧ b ≠ 1
  | _ => True

/-- what `Supp` asks of the node itself: a variable needs its coordinate -/
def SuppNode {α : Type} (p : Point α) : Expr α → Prop
  | .var _ y => (p.get? y).isSome
  | _ => True

/-- what `Dom` asks of the node itself, given the values of its operands -/
def DomNode : Expr ℝ → List ℝ → Prop
  | .div _ _ _ => fun | [_, r] => r ≠ 0 | _ => True
  | .recip _ _ => fun | [u] => u ≠ 0 | _ => True
  | .pow _ _ _ => fun | [l, _] => 0 < l | _ => True
  | .nroot _ _ n => fun | [u] => (2 ≤ n → u ≠ 0) ∧ (n % 2 = 0 → 0 ≤ u) | _ => True
  | .log _ _ _ => fun | [u] => 0 < u | _ => True
  | _ => fun _ => True

/-- the value of a node, given the values of its operands -/
noncomputable def denNode (ρ : String → ℝ) : Expr ℝ → List ℝ → ℝ
  | .const _ v => fun _ => v
  | .var _ x => fun _ => ρ x
  | .add _ _ => List.sum
  | .mul _ _ => List.prod
  | .minus _ _ _ => fun | [l, r] => l - r | _ => 0
  | .div _ _ _ => fun | [l, r] => l / r | _ => 0
  | .pow _ _ _ => fun | [l, r] => Real.exp (r * Real.log l) | _ => 0
  | .neg _ _ => fun | [u] => -u | _ => 0
  | .recip _ _ => fun | [u] => u⁻¹ | _ => 0
  | .npow _ _ n => fun | [u] => u ^ n | _ => 0
  | .nroot _ _ n => fun | [u] => sroot n u | _ => 0
  | .exp _ _ b => fun | [u] => Real.exp (u * Real.log b) | _ => 0
  | .log _ _ b => fun | [u] => Real.log u / Real.log b | _ => 0
  | .cos _ _ => fun | [u] => Real.cos u | _ => 0
  | .sin _ _ => fun | [u] => Real.sin u | _ => 0

theorem wf_node (e : Expr ℝ) : WF e ↔ WFNode e ∧ WFList (children e) := by
  cases e <;> simp only [WF, WFNode, children, WFList, and_true, true_and, and_assoc]

theorem supp_node {α : Type} (p : Point α) (e : Expr α) :
    Supp p e ↔ SuppNode p e ∧ SuppList p (children e) := by
  cases e <;> simp only [Supp, SuppNode, children, SuppList, and_true, true_and]

theorem dom_node (ρ : String → ℝ) (e : Expr ℝ) :
    Dom ρ e ↔ DomList ρ (children e) ∧ DomNode e (denList ρ (children e)) := by
  cases e <;> simp only [Dom, DomNode, children, DomList, denList, and_true, and_assoc]

theorem den_node (ρ : String → ℝ) (e : Expr ℝ) : den ρ e = denNode ρ e (denList ρ (children e)) := by
  cases e <;> simp only [den, denNode, children, denList]

theorem wfNode_rebuildNode (e : Expr ℝ) (cs : List (Expr ℝ)) : WFNode (rebuildNode e cs) = WFNode e := by
  cases e <;> rfl

theorem suppNode_rebuildNode {α : Type} (p : Point α) (e : Expr α) (cs : List (Expr α)) :
    SuppNode p (rebuildNode e cs) = SuppNode p e := by
  cases e <;> rfl

theorem domNode_rebuildNode (e : Expr ℝ) (cs : List (Expr ℝ)) :
    DomNode (rebuildNode e cs) = DomNode e := by
  cases e <;> rfl

theorem denNode_rebuildNode (ρ : String → ℝ) (e : Expr ℝ) (cs : List (Expr ℝ)) :
    denNode ρ (rebuildNode e cs) = denNode ρ e := by
  cases e <;> rfl

theorem Refines.rebuild (e : Expr ℝ) {cs : List (Expr ℝ)} (h : RefinesList (children e) cs)
    (hl : cs.length = (children e).length) : Refines e (rebuildNode e cs) := by
  have hc := children_rebuildNode e cs hl
  refine ⟨fun hw => ?_, fun p hs => ?_, fun hw ρ hd => ?_⟩
  · rw [wf_node] at hw ⊢
    rw [hc, wfNode_rebuildNode]
    exact ⟨hw.1, h.wf hw.2⟩
  · rw [supp_node] at hs ⊢
    rw [hc, suppNode_rebuildNode]
    exact ⟨hs.1, h.supp p hs.2⟩
  · rw [dom_node] at hd
    obtain ⟨d, v⟩ := h.sem ((wf_node e).mp hw).2 ρ hd.1
    rw [dom_node, den_node, den_node ρ e, hc, v, domNode_rebuildNode, denNode_rebuildNode]
    exact ⟨⟨d, hd.2⟩, rfl⟩

theorem Refines.rebuild_one {e c c' : Expr ℝ} {pre post : List (Expr ℝ)}
    (hch : children e = pre ++ c :: post) (h : Refines c c') :
    Refines e (rebuildNode e (pre ++ c' :: post)) :=
  Refines.rebuild e (hch ▸ RefinesList.replace pre post h) (by simp [hch])

theorem Refines.add_replace (f g : Flags) (pre post : List (Expr ℝ)) {e e' : Expr ℝ}
    (h : Refines e e') : Refines (.add f (pre ++ e :: post)) (.add g (pre ++ e' :: post)) :=
  (Refines.rebuild_one (e := .add f (pre ++ e :: post)) rfl h).trans (setFlags_refines g _)

theorem Refines.mul_replace (f g : Flags) (pre post : List (Expr ℝ)) {e e' : Expr ℝ}
    (h : Refines e e') : Refines (.mul f (pre ++ e :: post)) (.mul g (pre ++ e' :: post)) :=
  (Refines.rebuild_one (e := .mul f (pre ++ e :: post)) rfl h).trans (setFlags_refines g _)

section generic
variable {β γ M : Type} [CommMonoid M]

@[to_additive]
theorem prod_map_partition (F : β → M) (sel : β → Option γ) (H : γ → M)
    (h : ∀ e m, sel e = some m → F e = H m) (as : List β) :
    (as.map F).prod =
      ((as.filter fun e => (sel e).isNone).map F).prod * ((as.filterMap sel).map H).prod := by
  induction as with
  | nil => simp
  | cons a as ih =>
    cases hs : sel a with
    | none => simp [hs, ih, mul_assoc]
    | some m => simp [hs, ih, h a m hs, mul_left_comm]

@[to_additive]
theorem prod_map_filter_of_one (F : β → M) (p : β → Bool) (as : List β)
    (h : ∀ e ∈ as, p e = false → F e = 1) : ((as.filter p).map F).prod = (as.map F).prod := by
  induction as with
  | nil => simp
  | cons a as ih =>
    have ih' := ih fun e he => h e (List.mem_cons_of_mem _ he)
    cases hp : p a with
    | true => simp [hp, ih']
    | false => simp [hp, ih', h a (List.mem_cons_self ..) hp]

end generic

theorem sum_map_neg {β : Type} (f : β → ℝ) (l : List β) :
    (l.map fun x => -f x).sum = -(l.map f).sum := by
  induction l with
  | nil => simp
  | cons a l ih => rw [List.map_cons, List.sum_cons, ih, List.map_cons, List.sum_cons, neg_add]

theorem prod_map_inv {β : Type} (f : β → ℝ) (l : List β) :
    (l.map fun x => (f x)⁻¹).prod = ((l.map f).prod)⁻¹ := by
  induction l with
  | nil => simp
  | cons a l ih => rw [List.map_cons, List.prod_cons, ih, List.map_cons, List.prod_cons, mul_inv]

end Smooth
