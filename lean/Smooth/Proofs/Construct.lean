/-
Proofs/Construct — the checked constructors and the operator dunders (Model/Surface) accept exactly
the documented arguments, build exactly the named node, and every accepted result is well formed.
-/
import Smooth.Real.Spec
import Smooth.Proofs.Vars

namespace Smooth
open Classical Expr

section generic
variable {α : Type}

def PyVal.NotExpr (v : PyVal α) : Prop := ∀ e : Expr α, v ≠ .expr e

theorem PyVal.notExpr_num (x : α) : (PyVal.num x).NotExpr := fun _ h => nomatch h
theorem PyVal.notExpr_str (s : String) : (PyVal.str s : PyVal α).NotExpr := fun _ h => nomatch h
theorem PyVal.notExpr_other : (PyVal.other : PyVal α).NotExpr := fun _ h => nomatch h

theorem asExprArg_ok_iff {v : PyVal α} {e : Expr α} : asExprArg v = .ok e ↔ v = .expr e := by
  cases v <;> simp [asExprArg, rmonad]

theorem asExprArg_notExpr {v : PyVal α} (h : v.NotExpr) : asExprArg v = .error .usage := by
  cases v with
  | expr e => exact absurd rfl (h e)
  | _ => rfl

theorem asExprArgs_ok_iff {vs : List (PyVal α)} {es : List (Expr α)} :
    asExprArgs vs = .ok es ↔ vs = es.map PyVal.expr := by
  induction vs generalizing es with
  | nil => cases es <;> simp [asExprArgs, rmonad]
  | cons v vs ih =>
    cases es <;> simp [asExprArgs, R.bind_eq_ok_iff, asExprArg_ok_iff, ih, rmonad]

/-- the only failure of the operand check is the generic `Exception` -/
theorem asExprArgs_error {vs : List (PyVal α)} {x : Err} (h : asExprArgs vs = .error x) :
    x = .usage ∧ ∃ v ∈ vs, PyVal.NotExpr v := by
  induction vs with
  | nil => cases h
  | cons v vs ih =>
    rw [asExprArgs, R.bind_eq_error_iff] at h
    rcases h with h | ⟨u, _, h⟩
    · cases v with
      | expr e => cases h
      | _ => cases h; exact ⟨rfl, _, List.mem_cons_self, fun _ h => nomatch h⟩
    · rw [R.bind_eq_error_iff] at h
      rcases h with h | ⟨_, _, h⟩
      · obtain ⟨hx, w, hw, hn⟩ := ih h
        exact ⟨hx, w, List.mem_cons_of_mem _ hw, hn⟩
      · cases h

theorem mkUnaryChecked_ok_iff (mk : Expr α → Expr α) (v : PyVal α) (e : Expr α) :
    mkUnaryChecked mk v = .ok e ↔ ∃ u, v = .expr u ∧ e = mk u := by
  simp only [mkUnaryChecked, R.bind_eq_ok_iff, asExprArg_ok_iff, rmonad, Except.ok.injEq,
    eq_comm (a := e)]

theorem mkUnaryChecked_notExpr (mk : Expr α → Expr α) {v : PyVal α} (hv : v.NotExpr) :
    mkUnaryChecked mk v = .error .usage := by
  rw [mkUnaryChecked, asExprArg_notExpr hv]; rfl

theorem mkBinaryChecked_notExpr_left (mk : Expr α → Expr α → Expr α) {l : PyVal α} (r : PyVal α)
    (hl : l.NotExpr) : mkBinaryChecked mk l r = .error .usage := by
  rw [mkBinaryChecked, asExprArg_notExpr hl]; rfl

theorem mkBinaryChecked_notExpr_right (mk : Expr α → Expr α → Expr α) (a : Expr α) {r : PyVal α}
    (hr : r.NotExpr) : mkBinaryChecked mk (.expr a) r = .error .usage := by
  rw [mkBinaryChecked, asExprArg_notExpr hr]; rfl

theorem mkBinaryChecked_ok_iff (mk : Expr α → Expr α → Expr α) (l r : PyVal α) (e : Expr α) :
    mkBinaryChecked mk l r = .ok e ↔ ∃ a b, l = .expr a ∧ r = .expr b ∧ e = mk a b := by
  simp only [mkBinaryChecked, R.bind_eq_ok_iff, asExprArg_ok_iff, rmonad, Except.ok.injEq,
    eq_comm (a := e), exists_and_left]

theorem mkNaryChecked_ok_iff (mk : List (Expr α) → Expr α) (vs : List (PyVal α)) (e : Expr α) :
    mkNaryChecked mk vs = .ok e ↔ ∃ us, vs = us.map PyVal.expr ∧ e = mk us := by
  simp only [mkNaryChecked, R.bind_eq_ok_iff, asExprArgs_ok_iff, rmonad, Except.ok.injEq,
    eq_comm (a := e)]

theorem mkNaryChecked_notExpr (mk : List (Expr α) → Expr α) {vs : List (PyVal α)} {v : PyVal α}
    (hmem : v ∈ vs) (hv : v.NotExpr) : mkNaryChecked mk vs = .error .usage := by
  cases h : asExprArgs vs with
  | error x => rw [mkNaryChecked, h, (asExprArgs_error h).1]; rfl
  | ok us =>
    obtain ⟨u, _, rfl⟩ := List.mem_map.mp (asExprArgs_ok_iff.mp h ▸ hmem)
    exact absurd rfl (hv u)

/-- the test `Variable.__init__` rejects on, negated -/
theorem nameCheck_eq_false (isWord : Char → Bool) (name : String) :
    (name.isEmpty || !name.toList.all isWord) = false ↔
      name ≠ "" ∧ name.toList.all isWord = true := by
  cases name.toList.all isWord <;> simp

theorem mkVariableChecked_ok_iff (isWord : Char → Bool) (name : String) (e : Expr α) :
    mkVariableChecked isWord name = .ok e ↔
      name ≠ "" ∧ name.toList.all isWord = true ∧ e = mkVar name := by
  rw [mkVariableChecked, ← and_assoc, ← nameCheck_eq_false]
  cases name.isEmpty || !name.toList.all isWord <;> simp [rmonad, eq_comm (a := e)]

theorem mkVariableChecked_reject (isWord : Char → Bool) (name : String)
    (h : name = "" ∨ name.toList.all isWord = false) :
    (mkVariableChecked isWord name : R (Expr α)) = .error .usage := by
  rw [mkVariableChecked, if_pos, R.throw_eq]
  rcases h with rfl | h
  · rfl
  · simp [h]

theorem opNeg_eq (a : Expr α) : opNeg a = mkNeg a := rfl

theorem opAdd_expr (a b : Expr α) : opAdd a (.expr b) = .ok (mkAdd [a, b]) := rfl
theorem opSub_expr (a b : Expr α) : opSub a (.expr b) = .ok (mkMinus a b) := rfl
theorem opMul_expr (a b : Expr α) : opMul a (.expr b) = .ok (mkMul [a, b]) := rfl
theorem opDiv_expr (a b : Expr α) : opDiv a (.expr b) = .ok (mkDiv a b) := rfl
theorem opPow_expr (N : Num α) (a b : Expr α) : opPow N a (.expr b) = .ok (mkPow a b) := rfl

theorem opAdd_notExpr (a : Expr α) {v : PyVal α} (hv : v.NotExpr) : opAdd a v = .error .usage :=
  mkBinaryChecked_notExpr_right _ a hv
theorem opSub_notExpr (a : Expr α) {v : PyVal α} (hv : v.NotExpr) : opSub a v = .error .usage :=
  mkBinaryChecked_notExpr_right _ a hv
theorem opMul_notExpr (a : Expr α) {v : PyVal α} (hv : v.NotExpr) : opMul a v = .error .usage :=
  mkBinaryChecked_notExpr_right _ a hv
theorem opDiv_notExpr (a : Expr α) {v : PyVal α} (hv : v.NotExpr) : opDiv a v = .error .usage :=
  mkBinaryChecked_notExpr_right _ a hv

theorem opPow_str (N : Num α) (a : Expr α) (s : String) : opPow N a (.str s) = .error .usage := rfl
theorem opPow_other (N : Num α) (a : Expr α) : opPow N a .other = .error .usage := rfl

end generic

theorem realNum_toInt_eq_some_iff {x : ℝ} {k : ℤ} : realNum.toInt x = some k ↔ (k : ℝ) = x :=
  ⟨realNum_toInt_some, fun h => h ▸ realNum_toInt_intCast k⟩

theorem realNum_toInt_natCast (k : ℕ) : realNum.toInt (k : ℝ) = some (k : ℤ) := by
  simpa using realNum_toInt_intCast (k : ℤ)

theorem realNum_toInt_eq_none_iff {x : ℝ} : realNum.toInt x = none ↔ ¬ ∃ k : ℤ, (k : ℝ) = x := by
  rw [Option.eq_none_iff_forall_ne_some, not_exists]
  exact forall_congr' fun _ => not_congr realNum_toInt_eq_some_iff

/-- `x` is a positive integer (an `int`, or an integral `float`) -/
def IsPosInt (x : ℝ) : Prop := ∃ k : ℕ, 1 ≤ k ∧ x = (k : ℝ)

theorem not_isPosInt_of_nonpos {j : ℤ} (hj : j ≤ 0) : ¬ IsPosInt (j : ℝ) := by
  rintro ⟨k, hk, h⟩
  have : j = (k : ℤ) := by exact_mod_cast h
  omega

theorem not_isPosInt_of_not_int {x : ℝ} (h : ¬ ∃ j : ℤ, (j : ℝ) = x) : ¬ IsPosInt x := by
  rintro ⟨k, _, rfl⟩
  exact h ⟨(k : ℤ), by simp⟩

/-- the three ways a numeric argument can be read as the parameter `n` -/
theorem realNum_toInt_cases (x : ℝ) :
    (∃ k : ℕ, 1 ≤ k ∧ x = (k : ℝ) ∧ realNum.toInt x = some (k : ℤ)) ∨
    (∃ j : ℤ, j ≤ 0 ∧ x = (j : ℝ) ∧ realNum.toInt x = some j) ∨
    ((¬ ∃ j : ℤ, (j : ℝ) = x) ∧ realNum.toInt x = none) := by
  cases h : realNum.toInt x with
  | none => exact Or.inr (Or.inr ⟨realNum_toInt_eq_none_iff.mp h, rfl⟩)
  | some j =>
    obtain rfl := realNum_toInt_some h
    by_cases hpos : j ≤ 0
    · exact Or.inr (Or.inl ⟨j, hpos, rfl, rfl⟩)
    · obtain ⟨k, rfl⟩ := Int.eq_ofNat_of_zero_le (by omega : 0 ≤ j)
      exact Or.inl ⟨k, by omega, by simp, rfl⟩

theorem checkN_natCast {k : ℕ} (hk : 1 ≤ k) : checkN realNum (.num (k : ℝ)) = .ok k := by
  have h0 : k ≠ 0 := by omega
  simp [checkN, realNum_toInt_natCast, h0, rmonad]

theorem checkN_num_reject {x : ℝ} (hx : ¬ IsPosInt x) :
    checkN realNum (.num x) = .error .domain := by
  rcases realNum_toInt_cases x with ⟨k, hk, rfl, _⟩ | ⟨j, hj, rfl, ht⟩ | ⟨_, ht⟩
  · exact absurd ⟨k, hk, rfl⟩ hx
  · simp [checkN, ht, hj, rmonad]
  · simp [checkN, ht, rmonad]

/-- what `NthPower`/`NthRoot` accept as `n` -/
def GoodN (n : PyVal ℝ) : Prop := ∃ k : ℕ, 1 ≤ k ∧ n = .num (k : ℝ)

/-- every failure of the `n` check is a `DomainError` -/
theorem checkN_reject {n : PyVal ℝ} (h : ¬ GoodN n) : checkN realNum n = .error .domain := by
  cases n with
  | num x => exact checkN_num_reject fun ⟨k, hk, hx⟩ => h ⟨k, hk, hx ▸ rfl⟩
  | _ => rfl

theorem checkN_ok_iff (n : PyVal ℝ) (k : ℕ) :
    checkN realNum n = .ok k ↔ n = .num (k : ℝ) ∧ 1 ≤ k := by
  constructor
  · intro h
    by_cases hn : GoodN n
    · obtain ⟨j, hj, rfl⟩ := hn
      rw [checkN_natCast hj] at h
      cases h
      exact ⟨rfl, hj⟩
    · rw [checkN_reject hn] at h
      cases h
  · rintro ⟨rfl, hk⟩
    exact checkN_natCast hk

/-! `NthPower` and `NthRoot` are both `checkN` first, then the operand check, then the node `mk e k`. -/

/-- `mkNthPowerChecked` and `mkNthRootChecked` with the node as a variable -/
abbrev nthChecked {α : Type} (N : Num α) (mk : Expr α → ℕ → Expr α) (inner n : PyVal α) :
    R (Expr α) :=
  checkN N n >>= fun k => asExprArg inner >>= fun e => pure (mk e k)

section nth
variable (mk : Expr ℝ → ℕ → Expr ℝ) (inner n : PyVal ℝ)

theorem nthChecked_ok_iff (e : Expr ℝ) :
    nthChecked realNum mk inner n = .ok e ↔
      ∃ (u : Expr ℝ) (k : ℕ), inner = .expr u ∧ n = .num (k : ℝ) ∧ 1 ≤ k ∧ e = mk u k := by
  simp only [nthChecked, R.bind_eq_ok_iff, checkN_ok_iff, asExprArg_ok_iff, rmonad,
    Except.ok.injEq, eq_comm (a := e)]
  exact ⟨fun ⟨k, ⟨hn, hk⟩, u, hu, he⟩ => ⟨u, k, hu, hn, hk, he⟩,
    fun ⟨u, k, hu, hn, hk, he⟩ => ⟨k, ⟨hn, hk⟩, u, hu, he⟩⟩

/-- a bad `n` is a `DomainError`, whatever the operand is (the `n` check comes first) -/
theorem nthChecked_badN {n : PyVal ℝ} (h : ¬ GoodN n) :
    nthChecked realNum mk inner n = .error .domain := by
  rw [nthChecked, checkN_reject h]; rfl

/-- a good `n` with a non-expression operand is the generic `Exception` -/
theorem nthChecked_notExpr {inner n : PyVal ℝ} (hn : GoodN n) (hv : inner.NotExpr) :
    nthChecked realNum mk inner n = .error .usage := by
  obtain ⟨k, hk, rfl⟩ := hn
  rw [nthChecked, checkN_natCast hk, R.ok_bind, asExprArg_notExpr hv]; rfl

end nth

theorem mkNthPowerChecked_ok_iff (inner n : PyVal ℝ) (e : Expr ℝ) :
    mkNthPowerChecked realNum inner n = .ok e ↔
      ∃ (u : Expr ℝ) (k : ℕ), inner = .expr u ∧ n = .num (k : ℝ) ∧ 1 ≤ k ∧ e = mkNPow u k :=
  nthChecked_ok_iff mkNPow inner n e

theorem mkNthRootChecked_ok_iff (inner n : PyVal ℝ) (e : Expr ℝ) :
    mkNthRootChecked realNum inner n = .ok e ↔
      ∃ (u : Expr ℝ) (k : ℕ), inner = .expr u ∧ n = .num (k : ℝ) ∧ 1 ≤ k ∧ e = mkNRoot u k :=
  nthChecked_ok_iff mkNRoot inner n e

theorem mkNthPowerChecked_badN (inner : PyVal ℝ) {n : PyVal ℝ} (h : ¬ GoodN n) :
    mkNthPowerChecked realNum inner n = .error .domain :=
  nthChecked_badN mkNPow inner h

theorem mkNthRootChecked_badN (inner : PyVal ℝ) {n : PyVal ℝ} (h : ¬ GoodN n) :
    mkNthRootChecked realNum inner n = .error .domain :=
  nthChecked_badN mkNRoot inner h

theorem mkNthPowerChecked_notExpr {inner n : PyVal ℝ} (hn : GoodN n) (hv : inner.NotExpr) :
    mkNthPowerChecked realNum inner n = .error .usage :=
  nthChecked_notExpr mkNPow hn hv

theorem mkNthRootChecked_notExpr {inner n : PyVal ℝ} (hn : GoodN n) (hv : inner.NotExpr) :
    mkNthRootChecked realNum inner n = .error .usage :=
  nthChecked_notExpr mkNRoot hn hv

theorem realNum_nonpos_test (b : ℝ) : (realNum.isZero b || realNum.isNeg b) = decide (b ≤ 0) := by
  rw [realNum_isZero, realNum_isNeg, ← Bool.decide_or, decide_eq_decide, le_iff_lt_or_eq, or_comm]

theorem mkExponentialChecked_ok_iff (inner : PyVal ℝ) (b : ℝ) (e : Expr ℝ) :
    mkExponentialChecked realNum inner b = .ok e ↔
      ∃ u : Expr ℝ, inner = .expr u ∧ 0 < b ∧ e = mkExp u b := by
  simp only [mkExponentialChecked, realNum_nonpos_test, R.bind_eq_ok_iff, asExprArg_ok_iff]
  by_cases hb : b ≤ 0 <;> simp [hb, not_lt.mpr, not_le.mp, rmonad, eq_comm (a := e)]

theorem mkExponentialChecked_notExpr {inner : PyVal ℝ} (b : ℝ) (hv : inner.NotExpr) :
    mkExponentialChecked realNum inner b = .error .usage := by
  rw [mkExponentialChecked, asExprArg_notExpr hv]; rfl

theorem mkExponentialChecked_badBase (u : Expr ℝ) {b : ℝ} (hb : b ≤ 0) :
    mkExponentialChecked realNum (.expr u) b = .error .domain := by
  rw [mkExponentialChecked, realNum_nonpos_test, decide_eq_true hb]; rfl

theorem mkLogarithmChecked_ok_iff (inner : PyVal ℝ) (b : ℝ) (e : Expr ℝ) :
    mkLogarithmChecked realNum inner b = .ok e ↔
      ∃ u : Expr ℝ, inner = .expr u ∧ 0 < b ∧ b ≠ 1 ∧ e = mkLog u b := by
  simp only [mkLogarithmChecked, realNum_nonpos_test, R.bind_eq_ok_iff, asExprArg_ok_iff]
  by_cases hb : b ≤ 0
  · simp [hb, not_lt.mpr, rmonad]
  · by_cases h1 : b = 1 <;> simp [hb, h1, not_le.mp, rmonad, eq_comm (a := e)]

theorem mkLogarithmChecked_notExpr {inner : PyVal ℝ} (b : ℝ) (hv : inner.NotExpr) :
    mkLogarithmChecked realNum inner b = .error .usage := by
  rw [mkLogarithmChecked, asExprArg_notExpr hv]; rfl

theorem mkLogarithmChecked_badBase (u : Expr ℝ) {b : ℝ} (hb : b ≤ 0 ∨ b = 1) :
    mkLogarithmChecked realNum (.expr u) b = .error .domain := by
  rw [mkLogarithmChecked, realNum_nonpos_test]
  by_cases h0 : b ≤ 0
  · rw [decide_eq_true h0]; rfl
  · simp [asExprArg, hb.resolve_left h0, rmonad]

theorem opPow_natCast (a : Expr ℝ) {k : ℕ} (hk : 1 ≤ k) :
    opPow realNum a (.num (k : ℝ)) = .ok (mkNPow a k) := by
  have h0 : k ≠ 0 := by omega
  simp [opPow, realNum_toInt_natCast, h0, rmonad]

/-- an integral exponent `≤ 0` is a `DomainError` (raised by `NthPower`) -/
theorem opPow_nonpos_int (a : Expr ℝ) {j : ℤ} (hj : j ≤ 0) :
    opPow realNum a (.num (j : ℝ)) = .error .domain := by
  simp [opPow, realNum_toInt_intCast, hj, rmonad]

/-- a non-integral numeric exponent is the generic `Exception` -/
theorem opPow_non_integral (a : Expr ℝ) {x : ℝ} (hx : ¬ ∃ j : ℤ, (j : ℝ) = x) :
    opPow realNum a (.num x) = .error .usage := by
  simp [opPow, realNum_toInt_eq_none_iff.mpr hx, rmonad]

theorem opPow_num_ok_iff (a : Expr ℝ) (v : ℝ) (e : Expr ℝ) :
    opPow realNum a (.num v) = .ok e ↔ ∃ k : ℕ, 1 ≤ k ∧ v = (k : ℝ) ∧ e = mkNPow a k := by
  constructor
  · intro h
    rcases realNum_toInt_cases v with ⟨k, hk, rfl, _⟩ | ⟨j, hj, rfl, _⟩ | ⟨hx, _⟩
    · rw [opPow_natCast a hk] at h
      cases h
      exact ⟨k, hk, rfl, rfl⟩
    · rw [opPow_nonpos_int a hj] at h; cases h
    · rw [opPow_non_integral a hx] at h; cases h
  · rintro ⟨k, hk, rfl, rfl⟩; exact opPow_natCast a hk

theorem opPow_num_reject (a : Expr ℝ) {v : ℝ} (hv : ¬ IsPosInt v) (e : Expr ℝ) :
    opPow realNum a (.num v) ≠ .ok e := fun h =>
  have ⟨k, hk, hv', _⟩ := (opPow_num_ok_iff a v e).mp h
  hv ⟨k, hk, hv'⟩

theorem mkConst_WF (v : ℝ) : WF (mkConst v) := trivial

theorem mkVariableChecked_WF (isWord : Char → Bool) (name : String) (e : Expr ℝ)
    (h : mkVariableChecked isWord name = .ok e) : WF e := by
  obtain ⟨_, _, rfl⟩ := (mkVariableChecked_ok_iff isWord name e).mp h
  trivial

/-- the variable node additionally satisfies the model's own node check -/
theorem mkVariableChecked_wfNode (N : Num ℝ) (isWord : Char → Bool) (name : String) (e : Expr ℝ)
    (h : mkVariableChecked isWord name = .ok e) : wfNode N isWord e = true := by
  obtain ⟨h1, h2, rfl⟩ := (mkVariableChecked_ok_iff isWord name e).mp h
  simp [wfNode, h1, h2]

def PyVal.WFArg : PyVal ℝ → Prop
  | .expr e => WF e
  | _ => True

theorem mkNthPowerChecked_WF (inner n : PyVal ℝ) (e : Expr ℝ) (hw : inner.WFArg)
    (h : mkNthPowerChecked realNum inner n = .ok e) : WF e := by
  obtain ⟨u, k, rfl, rfl, hk, rfl⟩ := (mkNthPowerChecked_ok_iff inner n e).mp h
  exact ⟨hk, hw⟩

theorem mkNthRootChecked_WF (inner n : PyVal ℝ) (e : Expr ℝ) (hw : inner.WFArg)
    (h : mkNthRootChecked realNum inner n = .ok e) : WF e := by
  obtain ⟨u, k, rfl, rfl, hk, rfl⟩ := (mkNthRootChecked_ok_iff inner n e).mp h
  exact ⟨hk, hw⟩

theorem mkExponentialChecked_WF (inner : PyVal ℝ) (b : ℝ) (e : Expr ℝ) (hw : inner.WFArg)
    (h : mkExponentialChecked realNum inner b = .ok e) : WF e := by
  obtain ⟨u, rfl, hb, rfl⟩ := (mkExponentialChecked_ok_iff inner b e).mp h
  exact ⟨hb, hw⟩

theorem mkLogarithmChecked_WF (inner : PyVal ℝ) (b : ℝ) (e : Expr ℝ) (hw : inner.WFArg)
    (h : mkLogarithmChecked realNum inner b = .ok e) : WF e := by
  obtain ⟨u, rfl, hb, hb1, rfl⟩ := (mkLogarithmChecked_ok_iff inner b e).mp h
  exact ⟨hb, hb1, hw⟩

/-- the unary classes without a parameter -/
inductive UnaryClass | neg | recip | cos | sin

def UnaryClass.mk : UnaryClass → Expr ℝ → Expr ℝ
  | .neg => mkNeg | .recip => mkRecip | .cos => mkCos | .sin => mkSin

inductive BinaryClass | minus | div | pow

def BinaryClass.mk : BinaryClass → Expr ℝ → Expr ℝ → Expr ℝ
  | .minus => mkMinus | .div => mkDiv | .pow => mkPow

inductive NaryClass | add | mul

def NaryClass.mk : NaryClass → List (Expr ℝ) → Expr ℝ
  | .add => mkAdd | .mul => mkMul

theorem mkUnaryChecked_WF (c : UnaryClass) (inner : PyVal ℝ) (e : Expr ℝ) (hw : inner.WFArg)
    (h : mkUnaryChecked c.mk inner = .ok e) : WF e := by
  obtain ⟨u, rfl, rfl⟩ := (mkUnaryChecked_ok_iff c.mk inner e).mp h
  cases c <;> exact hw

theorem mkBinaryChecked_WF (c : BinaryClass) (l r : PyVal ℝ) (e : Expr ℝ) (hl : l.WFArg)
    (hr : r.WFArg) (h : mkBinaryChecked c.mk l r = .ok e) : WF e := by
  obtain ⟨a, b, rfl, rfl, rfl⟩ := (mkBinaryChecked_ok_iff c.mk l r e).mp h
  cases c <;> exact ⟨hl, hr⟩

theorem mkNaryChecked_WF (c : NaryClass) (vs : List (PyVal ℝ)) (e : Expr ℝ)
    (hw : ∀ v ∈ vs, PyVal.WFArg v) (h : mkNaryChecked c.mk vs = .ok e) : WF e := by
  obtain ⟨us, rfl, rfl⟩ := (mkNaryChecked_ok_iff c.mk vs e).mp h
  have : WFList us := (wfList_iff _).mpr fun u hu => hw (.expr u) (List.mem_map.mpr ⟨u, hu, rfl⟩)
  cases c <;> exact this

theorem opNeg_WF {a : Expr ℝ} (ha : WF a) : WF (opNeg a) := ha

theorem opBinary_WF {a : Expr ℝ} {v : PyVal ℝ} {e : Expr ℝ} (ha : WF a) (hv : v.WFArg)
    (h : opAdd a v = .ok e ∨ opSub a v = .ok e ∨ opMul a v = .ok e ∨ opDiv a v = .ok e) :
    WF e := by
  simp only [opAdd, opSub, opMul, opDiv, mkBinaryChecked_ok_iff] at h
  rcases h with ⟨_, b, h, rfl, rfl⟩ | ⟨_, b, h, rfl, rfl⟩ | ⟨_, b, h, rfl, rfl⟩ |
    ⟨_, b, h, rfl, rfl⟩
  all_goals
    cases h
    first | exact ⟨ha, hv, trivial⟩ | exact ⟨ha, hv⟩

theorem opPow_WF {a : Expr ℝ} {v : PyVal ℝ} {e : Expr ℝ} (ha : WF a) (hv : v.WFArg)
    (h : opPow realNum a v = .ok e) : WF e := by
  cases v with
  | expr b => cases h; exact ⟨ha, hv⟩
  | num x =>
    obtain ⟨k, hk, rfl, rfl⟩ := (opPow_num_ok_iff a x e).mp h
    exact ⟨hk, ha⟩
  | _ => cases h

theorem PyVal.WFArg_of {v : PyVal ℝ} (h : ∀ u, v = .expr u → WF u) : v.WFArg := by
  cases v with
  | expr e => exact h e rfl
  | _ => trivial

/-- The expressions that can be built through the public surface: the (checked) constructors of the
fifteen classes and the operator dunders, applied to arbitrary Python values whose expression operands
were themselves built that way. -/
inductive Constructible (isWord : Char → Bool) : Expr ℝ → Prop
  | const (v : ℝ) : Constructible isWord (mkConst v)
  | var {name : String} {e : Expr ℝ} (h : mkVariableChecked isWord name = .ok e) :
      Constructible isWord e
  | unary (c : UnaryClass) {inner : PyVal ℝ} {e : Expr ℝ}
      (hi : ∀ u, inner = .expr u → Constructible isWord u)
      (h : mkUnaryChecked c.mk inner = .ok e) : Constructible isWord e
  | binary (c : BinaryClass) {l r : PyVal ℝ} {e : Expr ℝ}
      (hl : ∀ u, l = .expr u → Constructible isWord u)
      (hr : ∀ u, r = .expr u → Constructible isWord u)
      (h : mkBinaryChecked c.mk l r = .ok e) : Constructible isWord e
  | nary (c : NaryClass) {vs : List (PyVal ℝ)} {e : Expr ℝ}
      (hv : ∀ u, PyVal.expr u ∈ vs → Constructible isWord u)
      (h : mkNaryChecked c.mk vs = .ok e) : Constructible isWord e
  | nthPower {inner n : PyVal ℝ} {e : Expr ℝ}
      (hi : ∀ u, inner = .expr u → Constructible isWord u)
      (h : mkNthPowerChecked realNum inner n = .ok e) : Constructible isWord e
  | nthRoot {inner n : PyVal ℝ} {e : Expr ℝ}
      (hi : ∀ u, inner = .expr u → Constructible isWord u)
      (h : mkNthRootChecked realNum inner n = .ok e) : Constructible isWord e
  | exponential {inner : PyVal ℝ} {b : ℝ} {e : Expr ℝ}
      (hi : ∀ u, inner = .expr u → Constructible isWord u)
      (h : mkExponentialChecked realNum inner b = .ok e) : Constructible isWord e
  | logarithm {inner : PyVal ℝ} {b : ℝ} {e : Expr ℝ}
      (hi : ∀ u, inner = .expr u → Constructible isWord u)
      (h : mkLogarithmChecked realNum inner b = .ok e) : Constructible isWord e
  | opNeg {a : Expr ℝ} (ha : Constructible isWord a) : Constructible isWord (opNeg a)
  | opAdd {a : Expr ℝ} {v : PyVal ℝ} {e : Expr ℝ} (ha : Constructible isWord a)
      (hv : ∀ u, v = .expr u → Constructible isWord u) (h : opAdd a v = .ok e) :
      Constructible isWord e
  | opSub {a : Expr ℝ} {v : PyVal ℝ} {e : Expr ℝ} (ha : Constructible isWord a)
      (hv : ∀ u, v = .expr u → Constructible isWord u) (h : opSub a v = .ok e) :
      Constructible isWord e
  | opMul {a : Expr ℝ} {v : PyVal ℝ} {e : Expr ℝ} (ha : Constructible isWord a)
      (hv : ∀ u, v = .expr u → Constructible isWord u) (h : opMul a v = .ok e) :
      Constructible isWord e
  | opDiv {a : Expr ℝ} {v : PyVal ℝ} {e : Expr ℝ} (ha : Constructible isWord a)
      (hv : ∀ u, v = .expr u → Constructible isWord u) (h : opDiv a v = .ok e) :
      Constructible isWord e
  | opPow {a : Expr ℝ} {v : PyVal ℝ} {e : Expr ℝ} (ha : Constructible isWord a)
      (hv : ∀ u, v = .expr u → Constructible isWord u) (h : opPow realNum a v = .ok e) :
      Constructible isWord e

theorem Constructible.wf {isWord : Char → Bool} {e : Expr ℝ} (h : Constructible isWord e) :
    WF e := by
  induction h with
  | const v => exact mkConst_WF v
  | var h => exact mkVariableChecked_WF _ _ _ h
  | unary c _ h ih => exact mkUnaryChecked_WF c _ _ (PyVal.WFArg_of ih) h
  | binary c _ _ h ihl ihr =>
    exact mkBinaryChecked_WF c _ _ _ (PyVal.WFArg_of ihl) (PyVal.WFArg_of ihr) h
  | nary c _ h ih =>
    refine mkNaryChecked_WF c _ _ (fun v hv => PyVal.WFArg_of ?_) h
    rintro u rfl; exact ih u hv
  | nthPower _ h ih => exact mkNthPowerChecked_WF _ _ _ (PyVal.WFArg_of ih) h
  | nthRoot _ h ih => exact mkNthRootChecked_WF _ _ _ (PyVal.WFArg_of ih) h
  | exponential _ h ih => exact mkExponentialChecked_WF _ _ _ (PyVal.WFArg_of ih) h
  | logarithm _ h ih => exact mkLogarithmChecked_WF _ _ _ (PyVal.WFArg_of ih) h
  | opNeg _ ih => exact opNeg_WF ih
  | opAdd _ _ h iha ihv => exact opBinary_WF iha (PyVal.WFArg_of ihv) (Or.inl h)
  | opSub _ _ h iha ihv => exact opBinary_WF iha (PyVal.WFArg_of ihv) (Or.inr (Or.inl h))
  | opMul _ _ h iha ihv => exact opBinary_WF iha (PyVal.WFArg_of ihv) (Or.inr (Or.inr (Or.inl h)))
  | opDiv _ _ h iha ihv => exact opBinary_WF iha (PyVal.WFArg_of ihv) (Or.inr (Or.inr (Or.inr h)))
  | opPow _ _ h iha ihv => exact opPow_WF iha (PyVal.WFArg_of ihv) h

/-- a well-formed node passes the model's executable per-node check `wfNode` (a variable: given
that its name passes the name check, which `WF` does not record) -/
theorem wfNode_of_WF (isWord : Char → Bool) {e : Expr ℝ} (h : WF e)
    (hvar : ∀ f x, e = .var f x → x ≠ "" ∧ x.toList.all isWord = true) :
    wfNode realNum isWord e = true := by
  cases e with
  | var f x =>
    obtain ⟨h1, h2⟩ := hvar f x rfl
    simp [wfNode, h1, h2]
  | npow f u n => simpa [wfNode] using h.1
  | nroot f u n => simpa [wfNode] using h.1
  | exp f u b => simpa [wfNode] using h.1
  | log f u b => simpa [wfNode] using And.intro h.1 h.2.1
  | _ => rfl

end Smooth
