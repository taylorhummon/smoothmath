/-
Proofs/PointDict (prefix `pd_`) — the two printed forms of a `Point` (`renderPointWith`, the
`Point._to_string` that carries fix F4): keyword form `Point(x=1, y=2)` when every name can be written
as a keyword argument, dictionary form `Point(**{"x": 1, "1y": 2})` otherwise.  The third token tells
the forms apart, and each is injective because the translation of the item tokens is.
-/
import Smooth.Proofs.Objects

namespace Smooth
variable {α : Type}

/-- the translation of item tokens inside `**{…}`: `=` is written `:`, everything else is kept -/
def pd_dictTok : Tok α → PTok α := fun t => match t with | .eqs => PTok.colon | t => .tok t

/-- one printed dictionary item `"x": v` -/
def pd_dictItem (xv : String × α) : List (PTok α) :=
  [.tok (.str xv.1), .colon, .tok (.num xv.2)]

theorem pd_dictTok_injective : Function.Injective (pd_dictTok (α := α)) := by
  intro a b h
  cases a <;> cases b <;> simp_all [pd_dictTok]

theorem pd_map_joinComma {β : Type} (f : Tok α → β) :
    ∀ l : List (List (Tok α)),
      (joinComma l).map f = List.intercalate [f .comma] (l.map (List.map f))
  | [] => by simp [joinComma, List.intercalate]
  | [x] => by simp [joinComma, List.intercalate]
  | x :: y :: r => by
    have ih := pd_map_joinComma f (y :: r)
    simp only [joinComma, List.map_append, List.map_cons, List.map_nil, ih]
    simp [List.intercalate]

theorem pd_items_map (p : Point α) :
    (p.map fun (x, v) => [Tok.str x, Tok.eqs, Tok.num v]).map (List.map pd_dictTok)
      = p.map pd_dictItem := by
  simp [pd_dictTok, pd_dictItem, Function.comp_def]

theorem pd_plain (kw : String → Bool) (p : Point α) (h : ∀ xv ∈ p, kw xv.1 = true) :
    renderPointWith kw p = (renderPoint p).map .tok := by
  rw [renderPointWith, if_pos (List.all_eq_true.mpr h)]

/-- dictionary form, with the model's own `joinComma` -/
theorem pd_dict_raw (kw : String → Bool) (p : Point α) (h : ¬ ∀ xv ∈ p, kw xv.1 = true) :
    renderPointWith kw p =
      [.tok (.ident "Point"), .tok .lp, .star2, .lb]
        ++ (joinComma (p.map fun (x, v) => [Tok.str x, Tok.eqs, Tok.num v])).map pd_dictTok
        ++ [.rb, .tok .rp] := by
  rw [renderPointWith, if_neg fun hh => h (List.all_eq_true.mp hh)]
  rfl

theorem pd_dict (kw : String → Bool) (p : Point α) (h : ¬ ∀ xv ∈ p, kw xv.1 = true) :
    renderPointWith kw p =
      .tok (.ident "Point") :: .tok .lp :: .star2 :: .lb ::
        (List.intercalate [.tok .comma] (p.map pd_dictItem) ++ [.rb, .tok .rp]) := by
  rw [pd_dict_raw kw p h, pd_map_joinComma, pd_items_map]
  rfl

theorem pd_plain_third (p : Point α) : ((renderPoint p).map PTok.tok)[2]? ≠ some .star2 := by
  match p with
  | [] => simp [renderPoint, joinComma]
  | [(x, v)] => simp [renderPoint, joinComma]
  | (x, v) :: a :: r => simp [renderPoint, joinComma]

theorem pd_form (kw : String → Bool) (p : Point α) :
    (renderPointWith kw p)[2]? = some .star2 ↔ ¬ (∀ xv ∈ p, kw xv.1 = true) := by
  by_cases h : ∀ xv ∈ p, kw xv.1 = true
  · rw [pd_plain kw p h]
    exact ⟨fun h3 => absurd h3 (pd_plain_third p), fun hn => absurd h hn⟩
  · rw [pd_dict kw p h]
    exact ⟨fun _ => h, fun _ => rfl⟩

theorem pd_tok_injective : Function.Injective (PTok.tok (α := α)) := by
  intro a b h; cases h; rfl

theorem pd_injective (kw : String → Bool) {p q : Point α}
    (h : renderPointWith kw p = renderPointWith kw q) : p = q := by
  by_cases hp : ∀ xv ∈ p, kw xv.1 = true <;> by_cases hq : ∀ xv ∈ q, kw xv.1 = true
  · rw [pd_plain kw p hp, pd_plain kw q hq] at h
    exact obj_renderPoint_inj (List.map_injective_iff.mpr pd_tok_injective h)
  · exact absurd ((pd_form kw p).mp (h ▸ (pd_form kw q).mpr hq)) (not_not.mpr hp)
  · exact absurd ((pd_form kw q).mp (h ▸ (pd_form kw p).mpr hp)) (not_not.mpr hq)
  · rw [pd_dict_raw kw p hp, pd_dict_raw kw q hq] at h
    simp only [List.cons_append, List.nil_append, List.cons.injEq, true_and] at h
    have h2 := List.append_cancel_right h
    exact joinComma_items_inj (fun _ _ => Tok.str.inj) p q
      (List.map_injective_iff.mpr pd_dictTok_injective h2)

end Smooth
