/-
Proofs/Coords — which coordinates of a point the model reads (C14, and the basis of C18), for any
number instance `N : Num α`.  Evaluation and both differentiation modes read the point only at the
variables that occur; evaluation returns a number only at points that supply all of them; and if the
primitive operations of `N` never answer `missing` (`NoMissing N`), neither does any of the three at
a point that supplies the expression.
-/
import Smooth.Proofs.Vars

namespace Smooth
open Expr
variable {α : Type}

def AgreeOn (p q : Point α) (e : Expr α) : Prop := ∀ x, Occurs x e → p.get? x = q.get? x

def AgreeOnList (p q : Point α) (es : List (Expr α)) : Prop :=
  ∀ x, OccursList x es → p.get? x = q.get? x

section agree
variable {p q : Point α}

theorem AgreeOnList.mem {es : List (Expr α)} (h : AgreeOnList p q es) {e : Expr α} (he : e ∈ es) :
    AgreeOn p q e := fun x hx => h x ((occursList_iff x es).mpr ⟨e, he, hx⟩)

theorem AgreeOn.of_get (h : ∀ x, p.get? x = q.get? x) (e : Expr α) : AgreeOn p q e :=
  fun x _ => h x

end agree

theorem evalListG_congr {N : Num α} {p q : Point α} {es : List (Expr α)}
    (h : ∀ e ∈ es, evalG N p e = evalG N q e) : evalListG N p es = evalListG N q es := by
  induction es with
  | nil => rfl
  | cons e es ih =>
    simp only [evalListG, h e List.mem_cons_self, ih fun a ha => h a (List.mem_cons_of_mem _ ha)]

theorem evalG_congr_occurs (N : Num α) {p q : Point α} (e : Expr α) (h : AgreeOn p q e) :
    evalG N p e = evalG N q e := by
  induction e using Expr.ind with
  | const f v => rfl
  | var f y => simp only [evalG, h y rfl]
  | add f as ih | mul f as ih =>
    simp only [evalG, evalListG_congr fun a ha => ih a ha (AgreeOnList.mem h ha)]
  | minus f l r ihl ihr | div f l r ihl ihr | pow f l r ihl ihr =>
    simp only [evalG, ihl fun x hx => h x (Or.inl hx), ihr fun x hx => h x (Or.inr hx)]
  | neg f u ih | recip f u ih | npow f u n ih | nroot f u n ih | exp f u b ih | log f u b ih
  | cos f u ih | sin f u ih => simp only [evalG, ih h]

theorem unaryFormula_congr (N : Num α) {p q : Point α} (e : Expr α) (h : AgreeOn p q e) :
    unaryFormula N p e = unaryFormula N q e := by
  funext m
  cases e with
  | recip f u | npow f u n | log f u b | cos f u | sin f u =>
    simp only [unaryFormula, evalG_congr_occurs N u h]
  | nroot f u n | exp f u b => simp only [unaryFormula, evalG_congr_occurs N _ h]
  | _ => simp only [unaryFormula]

theorem fwdListG_congr {N : Num α} {p q : Point α} {x : String} {es : List (Expr α)}
    (h : ∀ e ∈ es, fwdG N p x e = fwdG N q x e) : fwdListG N p x es = fwdListG N q x es := by
  induction es with
  | nil => rfl
  | cons e es ih =>
    simp only [fwdListG, h e List.mem_cons_self, ih fun a ha => h a (List.mem_cons_of_mem _ ha)]

theorem fwdG_congr_occurs (N : Num α) {p q : Point α} (x : String) (e : Expr α)
    (h : AgreeOn p q e) : fwdG N p x e = fwdG N q x e := by
  induction e using Expr.ind with
  | const f v => rfl
  | var f y => simp only [fwdG]
  | add f as ih =>
    simp only [fwdG, fwdListG_congr fun a ha => ih a ha (AgreeOnList.mem h ha)]
  | mul f as ih =>
    simp only [fwdG, fwdListG_congr fun a ha => ih a ha (AgreeOnList.mem h ha),
      evalListG_congr fun a ha => evalG_congr_occurs N a (AgreeOnList.mem h ha)]
  | minus f l r ihl ihr | div f l r ihl ihr | pow f l r ihl ihr =>
    have hl : AgreeOn p q l := fun y hy => h y (Or.inl hy)
    have hr : AgreeOn p q r := fun y hy => h y (Or.inr hy)
    simp only [fwdG, divFormulaLeft, divFormulaRight, powShortcut, powFormulaLeft, powFormulaRight,
      ihl hl, ihr hr, evalG_congr_occurs N l hl, evalG_congr_occurs N r hr,
      evalG_congr_occurs N _ h]
  | neg f u ih | recip f u ih | npow f u n ih | nroot f u n ih | exp f u b ih | log f u b ih
  | cos f u ih | sin f u ih =>
    simp only [fwdG, ih h, evalG_congr_occurs N u h, unaryFormula_congr N _ h]

theorem fwdListG_congr_agree (N : Num α) (p q : Point α) (x : String) : ∀ es : List (Expr α),
    AgreeOnList p q es → fwdListG N p x es = fwdListG N q x es :=
  fun _ h => fwdListG_congr fun e he => fwdG_congr_occurs N x e (h.mem he)

theorem revListG_congr {N : Num α} {p q : Point α} {es : List (Expr α)}
    (h : ∀ e ∈ es, ∀ m acc, revG N p e m acc = revG N q e m acc) (m : α) (acc : Acc α) :
    revListG N p es m acc = revListG N q es m acc := by
  induction es generalizing acc with
  | nil => rfl
  | cons e es ih =>
    simp only [revListG, h e List.mem_cons_self, ih fun a ha => h a (List.mem_cons_of_mem _ ha)]

theorem revMulG_congr {N : Num α} {p q : Point α} {es : List (Expr α)}
    (h : ∀ e ∈ es, ∀ m acc, revG N p e m acc = revG N q e m acc) (vs : List α) (m : α) (i : Nat)
    (acc : Acc α) : revMulG N p vs m i es acc = revMulG N q vs m i es acc := by
  induction es generalizing i acc with
  | nil => rfl
  | cons e es ih =>
    simp only [revMulG, h e List.mem_cons_self, ih fun a ha => h a (List.mem_cons_of_mem _ ha)]

theorem revG_congr_occurs (N : Num α) {p q : Point α} (e : Expr α) (h : AgreeOn p q e) (m : α)
    (acc : Acc α) :
    revG N p e m acc = revG N q e m acc := by
  induction e using Expr.ind generalizing m acc with
  | const f v => rfl
  | var f y => simp only [revG]
  | add f as ih =>
    simp only [revG]
    exact revListG_congr (fun a ha => ih a ha (AgreeOnList.mem h ha)) m acc
  | mul f as ih =>
    simp only [revG, evalListG_congr fun a ha => evalG_congr_occurs N a (AgreeOnList.mem h ha),
      revMulG_congr fun a ha => ih a ha (AgreeOnList.mem h ha)]
  | minus f l r ihl ihr | div f l r ihl ihr | pow f l r ihl ihr =>
    have hl : AgreeOn p q l := fun y hy => h y (Or.inl hy)
    have hr : AgreeOn p q r := fun y hy => h y (Or.inr hy)
    simp only [revG, divFormulaLeft, divFormulaRight, powShortcut, powFormulaLeft, powFormulaRight,
      ihl hl, ihr hr, evalG_congr_occurs N l hl, evalG_congr_occurs N r hr,
      evalG_congr_occurs N _ h]
  | neg f u ih | recip f u ih | npow f u n ih | nroot f u n ih | exp f u b ih | log f u b ih
  | cos f u ih | sin f u ih =>
    simp only [revG, ih h, evalG_congr_occurs N u h, unaryFormula_congr N _ h]

theorem revListG_congr_agree (N : Num α) (p q : Point α) : ∀ es : List (Expr α),
    AgreeOnList p q es → ∀ (m : α) (acc : Acc α), revListG N p es m acc = revListG N q es m acc :=
  fun _ h => revListG_congr fun e he => revG_congr_occurs N e (h.mem he)

theorem revMulG_congr_agree (N : Num α) (p q : Point α) : ∀ es : List (Expr α),
    AgreeOnList p q es → ∀ (vs : List α) (m : α) (i : Nat) (acc : Acc α),
      revMulG N p vs m i es acc = revMulG N q vs m i es acc :=
  fun _ h => revMulG_congr fun e he => revG_congr_occurs N e (h.mem he)

theorem numericPartials_congr_occurs (N : Num α) {p q : Point α} (e : Expr α) (h : AgreeOn p q e) :
    numericPartials N p e = numericPartials N q e := by
  simp only [numericPartials, revG_congr_occurs N e h]

theorem evalG_ok_supp (N : Num α) (p : Point α) (e : Expr α) :
    ∀ v : α, evalG N p e = .ok v → Supp p e := by
  induction e using Expr.ind with
  | const f v => exact fun _ _ => trivial
  | var f y =>
    intro v h
    simp only [evalG] at h
    simp only [Supp]
    cases hg : p.get? y with
    | none => rw [hg] at h; cases h
    | some w => rfl
  | add f as ih | mul f as ih =>
    intro v h
    simp only [evalG] at h
    obtain ⟨vs, hvs, -⟩ := R.bind_eq_ok_iff.mp h
    clear h
    simp only [Supp]
    induction as generalizing vs with
    | nil => trivial
    | cons e es ihes =>
      simp only [evalListG] at hvs
      obtain ⟨a, ha, hvs⟩ := R.bind_eq_ok_iff.mp hvs
      obtain ⟨as', has, _⟩ := R.bind_eq_ok_iff.mp hvs
      exact ⟨ih e List.mem_cons_self a ha,
        ihes (fun a ha => ih a (List.mem_cons_of_mem _ ha)) as' has⟩
  | minus f l r ihl ihr | div f l r ihl ihr | pow f l r ihl ihr =>
    intro v h
    simp only [evalG] at h
    obtain ⟨a, h1, h⟩ := R.bind_eq_ok_iff.mp h
    obtain ⟨b, h2, _⟩ := R.bind_eq_ok_iff.mp h
    exact ⟨ihl a h1, ihr b h2⟩
  | neg f u ih | recip f u ih | npow f u n ih | nroot f u n ih | exp f u b ih | log f u b ih
  | cos f u ih | sin f u ih =>
    intro v h
    simp only [evalG] at h
    obtain ⟨a, h1, _⟩ := R.bind_eq_ok_iff.mp h
    exact ih a h1

theorem evalListG_ok_supp (N : Num α) (p : Point α) : ∀ (es : List (Expr α)) (vs : List α),
    evalListG N p es = .ok vs → SuppList p es :=
  fun es vs h => evalG_ok_supp N p (.add {} es) (mfAdd N vs) (by simp only [evalG, h, rmonad])

theorem evalG_not_ok_of_lacking (N : Num α) (p : Point α) (e : Expr α) (x : String)
    (hx : Occurs x e) (hp : p.get? x = none) (v : α) : evalG N p e ≠ .ok v := by
  intro h
  have := (supp_iff_occurs p e).mp (evalG_ok_supp N p e v h) x hx
  rw [hp] at this
  cases this

/-- The primitive operations of the number instance never answer `missing` (they know nothing
about points). -/
structure NoMissing (N : Num α) : Prop where
  rpow : ∀ x y, N.rpow x y ≠ .error .missing
  sqrt : ∀ x, N.sqrt x ≠ .error .missing
  cbrt : ∀ x, N.cbrt x ≠ .error .missing
  logb : ∀ x b, N.logb x b ≠ .error .missing
  sin : ∀ x, N.sin x ≠ .error .missing
  cos : ∀ x, N.cos x ≠ .error .missing

def NM {β : Type} (r : R β) : Prop := r ≠ .error .missing

theorem NM.pure {β : Type} (a : β) : NM (pure a : R β) := fun h => by cases h
theorem NM.ok {β : Type} (a : β) : NM (.ok a : R β) := fun h => by cases h
theorem NM.throw {β : Type} {e : Err} (he : e ≠ .missing) : NM (throw e : R β) := fun h => by
  cases h; exact he rfl
theorem NM.bind {β γ : Type} {r : R β} {k : β → R γ} (h : NM r) (hk : ∀ a, NM (k a)) :
    NM (r >>= k) := by
  cases r with
  | error e =>
    intro h'
    apply h
    cases h'
    rfl
  | ok a => exact hk a
theorem NM.ite {β : Type} {c : Prop} [Decidable c] {a b : R β} (ha : NM a) (hb : NM b) :
    NM (if c then a else b) := by
  split
  · exact ha
  · exact hb

section nm
variable {N : Num α}

theorem pyTrueDiv_nm (x y : α) : NM (pyTrueDiv N x y) :=
  NM.ite (NM.throw (by decide)) (NM.pure _)

theorem pyPow_nm (hN : NoMissing N) (x y : α) : NM (pyPow N x y) := by
  unfold pyPow
  refine NM.ite (NM.ite (NM.throw (by decide)) (NM.ite (NM.pure _) (NM.pure _)))
    (NM.ite ?_ (hN.rpow x y))
  split
  · exact NM.throw (by decide)
  · exact NM.ite (NM.pure _) (NM.pure _)

theorem pySqrt_nm (hN : NoMissing N) (x : α) : NM (pySqrt N x) :=
  NM.ite (NM.throw (by decide)) (hN.sqrt x)

theorem pyLog_nm (hN : NoMissing N) (x b : α) : NM (pyLog N x b) :=
  NM.ite (NM.throw (by decide)) (NM.ite (NM.throw (by decide))
    (NM.ite (NM.throw (by decide)) (hN.logb x b)))

theorem mfDivide_nm (x y : α) : NM (mfDivide N x y) :=
  NM.ite (NM.throw (by decide)) (pyTrueDiv_nm x y)

theorem mfReciprocal_nm (x : α) : NM (mfReciprocal N x) :=
  NM.ite (NM.throw (by decide)) (pyTrueDiv_nm _ x)

theorem mfPower_nm (hN : NoMissing N) (x y : α) : NM (mfPower N x y) :=
  NM.ite (NM.throw (by decide)) (NM.ite (NM.throw (by decide)) (pyPow_nm hN x y))

theorem mfNthPower_nm (x : α) (n : Nat) : NM (mfNthPower N x n) :=
  NM.ite (NM.throw (by decide)) (NM.pure _)

theorem mfNthRoot_nm (hN : NoMissing N) (x : α) (n : Nat) : NM (mfNthRoot N x n) := by
  unfold mfNthRoot
  refine NM.ite (NM.throw (by decide)) (NM.ite (NM.pure _) (NM.ite ?_ (NM.ite ?_ (NM.ite ?_ ?_))))
  · exact NM.ite (pySqrt_nm hN x) (NM.throw (by decide))
  · exact NM.ite (hN.cbrt x) (NM.ite (NM.throw (by decide))
      (NM.bind (hN.cbrt _) fun _ => NM.pure _))
  · exact NM.ite (pyPow_nm hN _ _) (NM.throw (by decide))
  · exact NM.ite (pyPow_nm hN _ _) (NM.ite (NM.throw (by decide))
      (NM.bind (pyPow_nm hN _ _) fun _ => NM.pure _))

theorem mfExponential_nm (hN : NoMissing N) (x b : α) : NM (mfExponential N x b) :=
  NM.ite (NM.throw (by decide)) (pyPow_nm hN b x)

theorem mfLogarithm_nm (hN : NoMissing N) (x b : α) : NM (mfLogarithm N x b) :=
  NM.ite (NM.throw (by decide)) (NM.ite (NM.throw (by decide)) (pyLog_nm hN x b))

theorem mfCosine_nm (hN : NoMissing N) (x : α) : NM (mfCosine N x) := hN.cos x
theorem mfSine_nm (hN : NoMissing N) (x : α) : NM (mfSine N x) := hN.sin x

theorem verifyDivide_nm (a b : α) : NM (verifyDivide N a b) :=
  NM.ite (NM.throw (by decide)) (NM.pure _)
theorem verifyReciprocal_nm (a : α) : NM (verifyReciprocal N a) :=
  NM.ite (NM.throw (by decide)) (NM.pure _)
theorem verifyPower_nm (a b : α) : NM (verifyPower N a b) :=
  NM.ite (NM.throw (by decide)) (NM.ite (NM.throw (by decide)) (NM.pure _))
theorem verifyNthRoot_nm (n : Nat) (a : α) : NM (verifyNthRoot N n a) :=
  NM.ite (NM.throw (by decide)) (NM.ite (NM.throw (by decide)) (NM.pure _))
theorem verifyLogarithm_nm (a : α) : NM (verifyLogarithm N a) :=
  NM.ite (NM.throw (by decide)) (NM.ite (NM.throw (by decide)) (NM.pure _))
theorem unaryVerify_nm (e : Expr α) (a : α) : NM (unaryVerify N e a) := by
  unfold unaryVerify
  split
  · exact verifyReciprocal_nm a
  · exact verifyNthRoot_nm _ a
  · exact verifyLogarithm_nm a
  · exact NM.pure _

theorem evalListG_nm_of {p : Point α} {es : List (Expr α)}
    (h : ∀ e ∈ es, Supp p e → NM (evalG N p e)) (hs : SuppList p es) : NM (evalListG N p es) := by
  induction es with
  | nil => exact NM.pure _
  | cons e es ih =>
    simp only [evalListG]
    exact NM.bind (h e List.mem_cons_self hs.1) fun _ =>
      NM.bind (ih (fun a ha => h a (List.mem_cons_of_mem _ ha)) hs.2) fun _ => NM.pure _

theorem evalG_nm (hN : NoMissing N) (p : Point α) (e : Expr α) (h : Supp p e) :
    NM (evalG N p e) := by
  induction e using Expr.ind with
  | const f v => exact NM.pure _
  | var f y =>
    simp only [Supp] at h
    simp only [evalG]
    cases hg : p.get? y with
    | none => rw [hg] at h; cases h
    | some w => exact NM.pure _
  | add f as ih | mul f as ih =>
    simp only [evalG]
    exact NM.bind (evalListG_nm_of ih h) fun _ => NM.pure _
  | minus f l r ihl ihr =>
    simp only [evalG]
    exact NM.bind (ihl h.1) fun _ => NM.bind (ihr h.2) fun _ => NM.pure _
  | div f l r ihl ihr =>
    simp only [evalG]
    exact NM.bind (ihl h.1) fun _ => NM.bind (ihr h.2) fun _ =>
      NM.bind (verifyDivide_nm _ _) fun _ => mfDivide_nm _ _
  | pow f l r ihl ihr =>
    simp only [evalG]
    exact NM.bind (ihl h.1) fun _ => NM.bind (ihr h.2) fun _ =>
      NM.bind (verifyPower_nm _ _) fun _ => mfPower_nm hN _ _
  | neg f u ih =>
    simp only [evalG]
    exact NM.bind (ih h) fun _ => NM.pure _
  | recip f u ih =>
    simp only [evalG]
    exact NM.bind (ih h) fun _ => NM.bind (verifyReciprocal_nm _) fun _ => mfReciprocal_nm _
  | npow f u n ih =>
    simp only [evalG]
    exact NM.bind (ih h) fun _ => mfNthPower_nm _ _
  | nroot f u n ih =>
    simp only [evalG]
    exact NM.bind (ih h) fun _ => NM.bind (verifyNthRoot_nm _ _) fun _ => mfNthRoot_nm hN _ _
  | exp f u b ih =>
    simp only [evalG]
    exact NM.bind (ih h) fun _ => mfExponential_nm hN _ _
  | log f u b ih =>
    simp only [evalG]
    exact NM.bind (ih h) fun _ => NM.bind (verifyLogarithm_nm _) fun _ => mfLogarithm_nm hN _ _
  | cos f u ih =>
    simp only [evalG]
    exact NM.bind (ih h) fun _ => mfCosine_nm hN _
  | sin f u ih =>
    simp only [evalG]
    exact NM.bind (ih h) fun _ => mfSine_nm hN _

theorem evalListG_nm (hN : NoMissing N) (p : Point α) (es : List (Expr α)) (h : SuppList p es) :
    NM (evalListG N p es) :=
  evalListG_nm_of (fun e _ => evalG_nm hN p e) h

theorem unaryFormula_nm (hN : NoMissing N) (p : Point α) (e : Expr α) (h : Supp p e) (m : α) :
    NM (unaryFormula N p e m) := by
  have he := evalG_nm hN p e h
  cases e with
  | recip f u =>
    simp only [unaryFormula]
    exact NM.bind (evalG_nm hN p u h) fun _ => NM.bind (mfNthPower_nm _ _) fun _ =>
      NM.bind (mfDivide_nm _ _) fun _ => NM.pure _
  | npow f u n =>
    simp only [unaryFormula]
    exact NM.ite (NM.pure _) (NM.bind (evalG_nm hN p u h) fun _ =>
      NM.bind (mfNthPower_nm _ _) fun _ => NM.pure _)
  | nroot f u n =>
    simp only [unaryFormula]
    exact NM.ite (NM.pure _) (NM.bind he fun _ =>
      NM.bind (mfNthPower_nm _ _) fun _ => mfDivide_nm _ _)
  | exp f u b =>
    simp only [unaryFormula]
    exact NM.ite (NM.pure _) (NM.bind he fun _ => NM.ite (NM.pure _)
      (NM.bind (mfLogarithm_nm hN _ _) fun _ => NM.pure _))
  | log f u b =>
    simp only [unaryFormula]
    exact NM.bind (evalG_nm hN p u h) fun _ => NM.ite (mfDivide_nm _ _)
      (NM.bind (mfLogarithm_nm hN _ _) fun _ => mfDivide_nm _ _)
  | cos f u =>
    simp only [unaryFormula]
    exact NM.bind (evalG_nm hN p u h) fun _ => NM.bind (mfSine_nm hN _) fun _ => NM.pure _
  | sin f u =>
    simp only [unaryFormula]
    exact NM.bind (evalG_nm hN p u h) fun _ => NM.bind (mfCosine_nm hN _) fun _ => NM.pure _
  | _ => exact NM.pure _

theorem divFormulaLeft_nm (hN : NoMissing N) (p : Point α) (l r : Expr α) (hr : Supp p r) (m : α) :
    NM (divFormulaLeft N p l r m) :=
  NM.bind (evalG_nm hN p r hr) fun _ => mfDivide_nm _ _

theorem divFormulaRight_nm (hN : NoMissing N) (p : Point α) (l r : Expr α) (hl : Supp p l)
    (hr : Supp p r) (m : α) : NM (divFormulaRight N p l r m) :=
  NM.bind (evalG_nm hN p l hl) fun _ => NM.bind (evalG_nm hN p r hr) fun _ =>
    NM.bind (mfNthPower_nm _ _) fun _ => NM.bind (mfDivide_nm _ _) fun _ => NM.pure _

theorem powFormulaLeft_nm (hN : NoMissing N) (p : Point α) (l r : Expr α) (hl : Supp p l)
    (hr : Supp p r) (m : α) : NM (powFormulaLeft N p l r m) :=
  NM.bind (evalG_nm hN p l hl) fun _ => NM.bind (evalG_nm hN p r hr) fun _ =>
    NM.bind (mfPower_nm hN _ _) fun _ => NM.pure _

theorem powFormulaRight_nm (hN : NoMissing N) (p : Point α) (self l : Expr α) (hs : Supp p self)
    (hl : Supp p l) (m : α) : NM (powFormulaRight N p self l m) :=
  NM.bind (evalG_nm hN p l hl) fun _ => NM.bind (evalG_nm hN p self hs) fun _ =>
    NM.bind (mfLogarithm_nm hN _ _) fun _ => NM.pure _

theorem powShortcut_nm (hN : NoMissing N) (p : Point α) (l : Expr α) (hl : Supp p l) :
    NM (powShortcut N p l) :=
  NM.ite (NM.bind (evalG_nm hN p l hl) fun _ => NM.pure _) (NM.pure _)

theorem fwdListG_nm_of {p : Point α} {x : String} {es : List (Expr α)}
    (h : ∀ e ∈ es, Supp p e → NM (fwdG N p x e)) (hs : SuppList p es) :
    NM (fwdListG N p x es) := by
  induction es with
  | nil => exact NM.pure _
  | cons e es ih =>
    simp only [fwdListG]
    exact NM.bind (h e List.mem_cons_self hs.1) fun _ =>
      NM.bind (ih (fun a ha => h a (List.mem_cons_of_mem _ ha)) hs.2) fun _ => NM.pure _

theorem fwdG_nm (hN : NoMissing N) (p : Point α) (x : String) (e : Expr α) (h : Supp p e) :
    NM (fwdG N p x e) := by
  induction e using Expr.ind with
  | const f v => exact NM.pure _
  | var f y =>
    simp only [fwdG]
    exact NM.ite (NM.pure _) (NM.pure _)
  | add f as ih =>
    simp only [fwdG]
    exact NM.bind (fwdListG_nm_of ih h) fun _ => NM.pure _
  | mul f as ih =>
    simp only [fwdG]
    exact NM.bind (evalListG_nm hN p as h) fun _ =>
      NM.bind (fwdListG_nm_of ih h) fun _ => NM.pure _
  | minus f l r ihl ihr =>
    simp only [fwdG]
    exact NM.bind (ihl h.1) fun _ => NM.bind (ihr h.2) fun _ => NM.pure _
  | div f l r ihl ihr =>
    simp only [fwdG]
    exact NM.bind (evalG_nm hN p l h.1) fun _ => NM.bind (evalG_nm hN p r h.2) fun _ =>
      NM.bind (verifyDivide_nm _ _) fun _ => NM.bind (ihl h.1) fun _ => NM.bind (ihr h.2) fun _ =>
      NM.bind (divFormulaLeft_nm hN p l r h.2 _) fun _ =>
      NM.bind (divFormulaRight_nm hN p l r h.1 h.2 _) fun _ => NM.pure _
  | pow f l r ihl ihr =>
    simp only [fwdG]
    exact NM.bind (powShortcut_nm hN p l h.1) fun _ =>
      NM.ite (NM.bind (evalG_nm hN p _ h) fun _ => NM.pure _)
        (NM.bind (evalG_nm hN p l h.1) fun _ => NM.bind (evalG_nm hN p r h.2) fun _ =>
          NM.bind (verifyPower_nm _ _) fun _ => NM.bind (ihl h.1) fun _ => NM.bind (ihr h.2) fun _ =>
          NM.bind (powFormulaLeft_nm hN p l r h.1 h.2 _) fun _ =>
          NM.bind (powFormulaRight_nm hN p _ l h h.1 _) fun _ => NM.pure _)
  | neg f u ih | recip f u ih | npow f u n ih | nroot f u n ih | exp f u b ih | log f u b ih
  | cos f u ih | sin f u ih =>
    simp only [fwdG]
    exact NM.bind (evalG_nm hN p u h) fun _ => NM.bind (unaryVerify_nm _ _) fun _ =>
      NM.bind (ih h) fun _ => unaryFormula_nm hN p _ h _

theorem fwdListG_nm (hN : NoMissing N) (p : Point α) (x : String) : ∀ es : List (Expr α),
    SuppList p es → NM (fwdListG N p x es) :=
  fun _ => fwdListG_nm_of fun e _ => fwdG_nm hN p x e

theorem revListG_nm_of {p : Point α} {es : List (Expr α)}
    (h : ∀ e ∈ es, Supp p e → ∀ m acc, NM (revG N p e m acc)) (hs : SuppList p es) (m : α)
    (acc : Acc α) : NM (revListG N p es m acc) := by
  induction es generalizing acc with
  | nil => exact NM.pure _
  | cons e es ih =>
    simp only [revListG]
    exact NM.bind (h e List.mem_cons_self hs.1 m acc) fun _ =>
      ih (fun a ha => h a (List.mem_cons_of_mem _ ha)) hs.2 _

theorem revMulG_nm_of {p : Point α} {es : List (Expr α)}
    (h : ∀ e ∈ es, Supp p e → ∀ m acc, NM (revG N p e m acc)) (hs : SuppList p es) (vs : List α)
    (m : α) (i : Nat) (acc : Acc α) : NM (revMulG N p vs m i es acc) := by
  induction es generalizing i acc with
  | nil => exact NM.pure _
  | cons e es ih =>
    simp only [revMulG]
    exact NM.bind (h e List.mem_cons_self hs.1 _ acc) fun _ =>
      ih (fun a ha => h a (List.mem_cons_of_mem _ ha)) hs.2 _ _

theorem revG_nm (hN : NoMissing N) (p : Point α) (e : Expr α) (h : Supp p e) (m : α)
    (acc : Acc α) : NM (revG N p e m acc) := by
  induction e using Expr.ind generalizing m acc with
  | const f v => exact NM.pure _
  | var f y => exact NM.pure _
  | add f as ih =>
    simp only [revG]
    exact revListG_nm_of ih h m acc
  | mul f as ih =>
    simp only [revG]
    exact NM.bind (evalListG_nm hN p as h) fun _ => revMulG_nm_of ih h _ m 0 acc
  | minus f l r ihl ihr =>
    simp only [revG]
    exact NM.bind (ihl h.1 m acc) fun _ => ihr h.2 _ _
  | div f l r ihl ihr =>
    simp only [revG]
    exact NM.bind (evalG_nm hN p l h.1) fun _ => NM.bind (evalG_nm hN p r h.2) fun _ =>
      NM.bind (verifyDivide_nm _ _) fun _ => NM.bind (divFormulaLeft_nm hN p l r h.2 m) fun _ =>
      NM.bind (divFormulaRight_nm hN p l r h.1 h.2 m) fun _ =>
      NM.bind (ihl h.1 _ acc) fun _ => ihr h.2 _ _
  | pow f l r ihl ihr =>
    simp only [revG]
    exact NM.bind (powShortcut_nm hN p l h.1) fun _ =>
      NM.ite (NM.bind (evalG_nm hN p _ h) fun _ => NM.pure _)
        (NM.bind (evalG_nm hN p l h.1) fun _ => NM.bind (evalG_nm hN p r h.2) fun _ =>
          NM.bind (verifyPower_nm _ _) fun _ =>
          NM.bind (powFormulaLeft_nm hN p l r h.1 h.2 m) fun _ =>
          NM.bind (powFormulaRight_nm hN p _ l h h.1 m) fun _ =>
          NM.bind (ihl h.1 _ acc) fun _ => ihr h.2 _ _)
  | neg f u ih | recip f u ih | npow f u n ih | nroot f u n ih | exp f u b ih | log f u b ih
  | cos f u ih | sin f u ih =>
    simp only [revG]
    exact NM.bind (evalG_nm hN p u h) fun _ => NM.bind (unaryVerify_nm _ _) fun _ =>
      NM.bind (unaryFormula_nm hN p _ h m) fun _ => ih h _ acc

theorem revListG_nm (hN : NoMissing N) (p : Point α) : ∀ es : List (Expr α), SuppList p es →
    ∀ (m : α) (acc : Acc α), NM (revListG N p es m acc) :=
  fun _ => revListG_nm_of fun e _ => revG_nm hN p e

theorem revMulG_nm (hN : NoMissing N) (p : Point α) : ∀ es : List (Expr α), SuppList p es →
    ∀ (vs : List α) (m : α) (i : Nat) (acc : Acc α), NM (revMulG N p vs m i es acc) :=
  fun _ => revMulG_nm_of fun e _ => revG_nm hN p e

end nm

theorem evalG_missing_not_supp {N : Num α} (hN : NoMissing N) (p : Point α) (e : Expr α)
    (h : evalG N p e = .error .missing) : ¬ Supp p e := fun hs => evalG_nm hN p e hs h

theorem evalG_missing_lacks {N : Num α} (hN : NoMissing N) (p : Point α) (e : Expr α)
    (h : evalG N p e = .error .missing) : ∃ x, Occurs x e ∧ p.get? x = none := by
  simpa only [supp_iff_occurs, not_forall, exists_prop, Option.not_isSome_iff_eq_none] using
    evalG_missing_not_supp hN p e h

theorem numericPartials_nm {N : Num α} (hN : NoMissing N) (p : Point α) (e : Expr α)
    (h : Supp p e) : NM (numericPartials N p e) :=
  NM.bind (revG_nm hN p e h N.one []) fun _ => NM.pure _

/-- the primitives of the real-number instance never fail at all -/
theorem noMissing_realNum : NoMissing realNum where
  rpow _ _ := fun h => by cases h
  sqrt _ := fun h => by cases h
  cbrt _ := fun h => by cases h
  logb _ _ := fun h => by cases h
  sin _ := fun h => by cases h
  cos _ := fun h => by cases h

/-- Forward-mode differentiation of a sum does not evaluate its operands, so unlike evaluation it
can return a number at a point that lacks an occurring variable. -/
example : fwdG realNum [] "x" (mkAdd [mkVar "x", mkVar "y"]) = .ok ((0 + 1) + 0) := by
  simp [fwdG, fwdListG, mfAdd, sumL, rmonad]

end Smooth
