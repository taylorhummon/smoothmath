/-
Proofs/Routes — the public differentiation routes of the object layer (`Partial`, `Derivative`,
`Differential`, `LocatedDifferential`; computed early or late; `.at`, `.component(..).at`,
`.component_at`, `.at(..).component`, before or after `as_expression()`): what each unfolds to, for
every number instance, and, over the reals, that at a point that supplies the expression every one
answers what forward mode answers — the true partial on the domain, `DomainError` off it (C06).

The route functions live in Model/Routes.lean; the native driver (Main.lean) dispatches its `route`
and `asexpr` requests to exactly these definitions, which is how the differential tests drive the
Python implementation through the same thirteen compositions.
-/
import Smooth.Model.Routes
import Smooth.Proofs.Base
import Smooth.Proofs.TruePartial
import Smooth.Proofs.SymForward
import Smooth.Proofs.SymReverse

namespace Smooth
open Classical Expr

section objects
variable {α : Type} (N : Num α)

theorem routes_evalAll_ok (p : Point α) (g : String → α) (d : SAcc α)
    (h : ∀ b ∈ d, evalG N p b.2 = .ok (g b.1)) :
    evalAll N p d = .ok (d.map fun b => (b.1, g b.1)) := by
  induction d with
  | nil => rfl
  | cons b rest ih =>
    simp only [evalAll, h b List.mem_cons_self, ih fun c hc => h c (List.mem_cons_of_mem _ hc),
      rmonad, List.map_cons]

end objects

/-- the ten routes that take a variable name all return `r` -/
structure AllPartialRoutes {α : Type} (N : Num α) (e : Expr α) (x : String) (p : Point α)
    (r : R α) : Prop where
  PL : routePL N e x p = r
  PE : routePE N e x p = r
  PA : routePA N e x p = r
  FCL : routeFCL N e x p = r
  FCE : routeFCE N e x p = r
  FCAL : routeFCAL N e x p = r
  FCAE : routeFCAE N e x p = r
  FATL : routeFATL N e x p = r
  FATE : routeFATE N e x p = r
  LD : routeLD N e x p = r

/-- the three `Derivative` routes all return `r` -/
structure AllDerivativeRoutes {α : Type} (N : Num α) (e : Expr α) (p : Point α) (r : R α) :
    Prop where
  DL : routeDL N e p = r
  DE : routeDE N e p = r
  DA : routeDA N e p = r

section unfold
variable {α : Type} (N : Num α)

/-- the common body of the routes through the normalised forward symbolic partial: normalise, then
evaluate the original, then the stored expression -/
def routeViaStored (e : Expr α) (x : String) (p : Point α) : R α := do
  let (s, _) ← retrieveSyntheticPartial N e x
  let _ ← evalG N p e
  evalG N p s

theorem routePL_eq (e : Expr α) (x : String) (p : Point α) : routePL N e x p = fwdG N p x e := by
  rfl

theorem routePE_eq (e : Expr α) (x : String) (p : Point α) :
    routePE N e x p = routeViaStored N e x p := by
  unfold routePE routeViaStored PartialObj.new
  cases retrieveSyntheticPartial N e x <;> rfl

theorem routePA_eq (e : Expr α) (x : String) (p : Point α) :
    routePA N e x p = routeViaStored N e x p := by
  simp only [routePA, routeViaStored, PartialObj.new_late, rmonad, PartialObj.asExpression_none]
  cases retrieveSyntheticPartial N e x <;> rfl

theorem routeDL_eq (e : Expr α) (p : Point α) :
    routeDL N e p = (do let x ← singleVarName e; routePL N e x p) := by
  unfold routeDL DerivativeObj.new
  cases singleVarName e <;> rfl

theorem routeDE_eq (e : Expr α) (p : Point α) :
    routeDE N e p = (do let x ← singleVarName e; routePE N e x p) := by
  unfold routeDE DerivativeObj.new routePE
  cases singleVarName e with
  | error err => rfl
  | ok x =>
    simp only [rmonad]
    cases PartialObj.new N e x true <;> rfl

theorem routeDA_eq (e : Expr α) (p : Point α) :
    routeDA N e p = (do let x ← singleVarName e; routePA N e x p) := by
  unfold routeDA DerivativeObj.new routePA DerivativeObj.asExpression
  cases singleVarName e with
  | error err => rfl
  | ok x =>
    simp only [PartialObj.new_late, rmonad, PartialObj.asExpression_none]
    cases retrieveSyntheticPartial N e x <;> rfl

theorem routeFCL_eq (e : Expr α) (x : String) (p : Point α) : routeFCL N e x p = fwdG N p x e := by
  rfl

theorem routeFCAL_eq (e : Expr α) (x : String) (p : Point α) :
    routeFCAL N e x p = fwdG N p x e := by
  rfl

theorem routeLD_eq (e : Expr α) (x : String) (p : Point α) :
    routeLD N e x p = (do
      let d ← numericPartials N p e
      pure ((Acc.get? d x).getD N.zero)) := by
  unfold routeLD LocatedObj.new
  cases numericPartials N p e <;> rfl

theorem routeFATL_eq (e : Expr α) (x : String) (p : Point α) :
    routeFATL N e x p = (do let _ ← evalG N p e; routeLD N e x p) := by
  simp only [routeFATL, routeLD, DifferentialObj.new, Bool.false_eq_true, if_false, rmonad,
    DifferentialObj.at]
  cases evalG N p e <;> rfl

theorem routeFATE_eq (e : Expr α) (x : String) (p : Point α) :
    routeFATE N e x p = (do
      let (d, _) ← normalizeAll N (syntheticPartials N e)
      let _ ← evalG N p e
      let vals ← evalAll N p d
      pure ((Acc.get? vals x).getD N.zero)) := by
  unfold routeFATE DifferentialObj.new DifferentialObj.at
  cases normalizeAll N (syntheticPartials N e) with
  | error err => rfl
  | ok dw =>
    simp only [if_true, rmonad]
    cases evalG N p e with
    | error err => rfl
    | ok v =>
      simp only [rmonad]
      cases evalAll N p dw.1 <;> rfl

theorem routeExprP_eq (e : Expr α) (x : String) :
    routeExprP N e x = retrieveSyntheticPartial N e x := by
  simp only [routeExprP, PartialObj.new_late, rmonad, PartialObj.asExpression_none]
  cases retrieveSyntheticPartial N e x <;> rfl

theorem routeExprPE_eq (e : Expr α) (x : String) :
    routeExprPE N e x = retrieveSyntheticPartial N e x := by
  unfold routeExprPE PartialObj.new
  cases retrieveSyntheticPartial N e x <;> rfl

theorem routeExprD_eq (e : Expr α) :
    routeExprD N e = (do let x ← singleVarName e; retrieveSyntheticPartial N e x) := by
  unfold routeExprD DerivativeObj.new DerivativeObj.asExpression
  cases singleVarName e with
  | error err => rfl
  | ok x =>
    simp only [PartialObj.new_late, rmonad, PartialObj.asExpression_none]
    cases retrieveSyntheticPartial N e x <;> rfl

theorem routeExprDE_eq (e : Expr α) :
    routeExprDE N e = (do let x ← singleVarName e; retrieveSyntheticPartial N e x) := by
  unfold routeExprDE DerivativeObj.new DerivativeObj.asExpression PartialObj.new
  cases singleVarName e with
  | error err => rfl
  | ok x =>
    simp only [if_true, rmonad]
    cases retrieveSyntheticPartial N e x <;> rfl

theorem routeExprFL_eq (e : Expr α) (x : String) :
    routeExprFL N e x = retrieveSyntheticPartial N e x :=
  routeExprP_eq N e x

/-- the early `Differential` answers `as_expression()` of a component with the stored (reverse
symbolic, normalised) expression when the name is a key, otherwise like a late `Partial` -/
theorem routeExprFE_eq (e : Expr α) (x : String) :
    routeExprFE N e x = (do
      let (d, w) ← normalizeAll N (syntheticPartials N e)
      match SAcc.get? d x with
      | none => do
        let (s, w') ← retrieveSyntheticPartial N e x
        pure (s, w || w')
      | some s => pure (s, w || false)) := by
  unfold routeExprFE DifferentialObj.new
  cases normalizeAll N (syntheticPartials N e) with
  | error err => rfl
  | ok dw =>
    simp only [if_true, rmonad, DifferentialObj.component_stored]
    cases SAcc.get? dw.1 x with
    | some s => rfl
    | none =>
      simp only [PartialObj.asExpression_none]
      cases retrieveSyntheticPartial N e x <;> rfl

/-- early = late after `as_expression()`, as functions: no hypothesis on expression, point or fuel -/
theorem routePA_eq_routePE (e : Expr α) (x : String) (p : Point α) :
    routePA N e x p = routePE N e x p := by rw [routePA_eq, routePE_eq]

/-- after `as_expression()` a late `Partial` is in the state of the early one (same stored
expression), and both return that expression -/
theorem routes_partial_objects_early_late (e : Expr α) (x : String) :
    (do let (P, w) ← PartialObj.new N e x true
        let (s, P', _) ← P.asExpression N
        pure (s, P', w)) =
    (do let (P, _) ← PartialObj.new N e x false
        P.asExpression N) := by
  simp only [PartialObj.new_late, rmonad, PartialObj.asExpression_none]
  unfold PartialObj.new
  cases retrieveSyntheticPartial N e x <;> rfl

theorem routes_all_derivative_usage (e : Expr α) (p : Point α) (err : Err)
    (hx : singleVarName e = .error err) : AllDerivativeRoutes N e p (.error err) :=
  ⟨by rw [routeDL_eq, hx]; rfl, by rw [routeDE_eq, hx]; rfl, by rw [routeDA_eq, hx]; rfl⟩

end unfold

/-! ### over the reals: at a supplied point every route answers what forward mode answers

Forward mode returns the true partial on the domain (`tp_fwd_is_truePartial`) and `DomainError` off
it (`routes_fwdG_off`).  A route through a stored, simplified expression evaluates the original
first, so off the domain it needs no K1 hypothesis; that is why the K1 hypotheses are asked for
on the domain only.  Constructing an early object runs the rewriter even off the domain; that
can only fail for lack of fuel, hence the fuel hypotheses. -/

section real
variable {p : Point ℝ} {e : Expr ℝ} (x : String)

/-- the K1 side condition for the routes through `Differential(compute_early=True)`: the rewriter's
run on every raw reverse-symbolic component performs no K1 rule application -/
def RoutesK1Rev (e : Expr ℝ) : Prop :=
  ∀ y s, SAcc.get? (syntheticPartials realNum e) y = some s →
    NormOK K1FreeAt REDUCTION_STEPS_BOUND NORMALIZE_FUEL s

/-- enough fuel for the routes through `Differential(compute_early=True)` -/
def RoutesFuelRev (e : Expr ℝ) : Prop :=
  ∀ y s, SAcc.get? (syntheticPartials realNum e) y = some s → ∃ r, normalize realNum s = some r

/-- enough fuel for the routes through the forward symbolic partial -/
def RoutesFuelFwd (e : Expr ℝ) (x : String) : Prop :=
  ∃ r, normalize realNum (symFwd realNum x e) = some r

theorem routes_retrieve_ok (hfuel : RoutesFuelFwd e x) :
    ∃ s w, retrieveSyntheticPartial realNum e x = .ok (s, w) :=
  let ⟨(s, w), h⟩ := hfuel
  ⟨s, w, liftFuel_eq_ok.mpr h⟩

theorem routes_differentialNew_ok (hfuel : RoutesFuelRev e) :
    ∃ d w, DifferentialObj.new realNum e true = .ok (⟨e, some d⟩, w) := by
  obtain ⟨d, w, h⟩ := routes_normalizeAll_ok realNum _ fun a ha =>
    hfuel a.1 a.2 (routes_syntheticPartials_mem realNum e ha)
  exact ⟨d, w, DifferentialObj.new_early_of_ok realNum h⟩

theorem routes_retrieved_eval (hwf : WF e)
    (hK1 : NormOK K1FreeAt REDUCTION_STEPS_BOUND NORMALIZE_FUEL (symFwd realNum x e))
    {s : Expr ℝ} {w : Bool} (hret : retrieveSyntheticPartial realNum e x = .ok (s, w))
    (hs : Supp p e) (hd : Dom (valOf p) e) : evalG realNum p s = fwdG realNum p x e :=
  refines_symFwd_eval (retrieveSyntheticPartial_refines e x s w hK1 hret) hwf p hs hd

theorem routes_viaStored_supplied (hwf : WF e) (hs : Supp p e)
    (hK1 : Dom (valOf p) e →
      NormOK K1FreeAt REDUCTION_STEPS_BOUND NORMALIZE_FUEL (symFwd realNum x e))
    (hfuel : RoutesFuelFwd e x) : routeViaStored realNum e x p = fwdG realNum p x e := by
  obtain ⟨s, w, hret⟩ := routes_retrieve_ok x hfuel
  rw [routeViaStored, hret]
  exact routes_at_stored x hwf hs fun hd => routes_retrieved_eval x hwf (hK1 hd) hret hs hd

theorem routes_numericPartials_on (hwf : WF e) (hs : Supp p e) (hd : Dom (valOf p) e) :
    numericPartials realNum p e = .ok (e.vars.map fun y => (y, truePartial p y e)) := by
  obtain ⟨acc', h, hacc⟩ := tp_rev_adds_true_partials p e hwf hs hd 1 []
  simp only [numericPartials, realNum_one, h, rmonad, realNum_zero]
  congr 1
  apply List.map_congr_left
  intro y _
  have := hacc y
  simp only [getA, Acc.get?, Point.get?, Option.getD_none, zero_add, one_mul] at this
  rw [show (Acc.get? acc' y).getD 0 = truePartial p y e from this]

theorem routes_numericPartials_off (hwf : WF e) (hs : Supp p e) (hnd : ¬ Dom (valOf p) e) :
    numericPartials realNum p e = .error .domain := by
  simp only [numericPartials, (revR_spec p e hwf _ []).off_domain hs hnd, rmonad]

theorem routes_LD_supplied (hwf : WF e) (hs : Supp p e) :
    routeLD realNum e x p = fwdG realNum p x e := by
  by_cases hd : Dom (valOf p) e
  · obtain ⟨L, hL, hc⟩ := tp_located_component_true p e hwf hs hd x
    simp only [routeLD, hL, hc, rmonad, tp_fwd_is_truePartial p x e hwf hs hd]
  · simp only [routeLD, LocatedObj.new, routes_numericPartials_off hwf hs hd,
      routes_fwdG_off x hwf hs hd, rmonad]

theorem routes_differential_late_at (p : Point ℝ) (e : Expr ℝ) (hwf : WF e) (hs : Supp p e) :
    (DifferentialObj.mk e none).at realNum p = LocatedObj.new realNum e p := by
  by_cases hd : Dom (valOf p) e
  · exact tp_differential_late_at p e hwf hs hd
  · simp only [DifferentialObj.at, LocatedObj.new, routes_evalG_off hwf hs hd,
      routes_numericPartials_off hwf hs hd, rmonad]

theorem routes_stored_entries_eval (hwf : WF e) (hs : Supp p e) (hd : Dom (valOf p) e)
    (hK1 : RoutesK1Rev e) {d : SAcc ℝ} {w : Bool}
    (hn : normalizeAll realNum (syntheticPartials realNum e) = .ok (d, w)) :
    ∀ b ∈ d, evalG realNum p b.2 = .ok (truePartial p b.1 e) := fun b hb => by
  rw [normalizeAll_entries_eval hwf hs hd hn hK1 b hb, tp_fwd_is_truePartial p b.1 e hwf hs hd]

theorem routes_stored_keys {d : SAcc ℝ} {w : Bool}
    (hn : normalizeAll realNum (syntheticPartials realNum e) = .ok (d, w)) :
    d.map Prod.fst = e.vars := by
  have h : List.Forall₂ (· = ·) ((syntheticPartials realNum e).map Prod.fst) (d.map Prod.fst) :=
    List.forall₂_map_left_iff.mpr (List.forall₂_map_right_iff.mpr
      ((routes_normalizeAll_forall₂ realNum hn).imp fun _ _ h => h.1.symm))
  rw [List.forall₂_eq_eq_eq] at h
  rw [← h, syntheticPartials, List.map_map]
  exact List.map_id _

/-- on the domain, outside K1, evaluating the stored components gives the very dictionary reverse
mode computes; off it both raise `DomainError` -/
theorem routes_differential_early_at (hwf : WF e) (hs : Supp p e)
    (hK1 : Dom (valOf p) e → RoutesK1Rev e) {D : DifferentialObj ℝ} {w : Bool}
    (hnew : DifferentialObj.new realNum e true = .ok (D, w)) :
    D.at realNum p = LocatedObj.new realNum e p := by
  obtain ⟨d, hn, rfl⟩ := differentialNew_early realNum e hnew
  by_cases hd : Dom (valOf p) e
  · have hall : evalAll realNum p d = .ok (e.vars.map fun y => (y, truePartial p y e)) := by
      rw [routes_evalAll_ok realNum p (fun y => truePartial p y e) d
        (routes_stored_entries_eval hwf hs hd (hK1 hd) hn), ← routes_stored_keys hn, List.map_map]
      rfl
    simp only [DifferentialObj.at, LocatedObj.new, routes_evalG_ok hwf hs hd, hall,
      routes_numericPartials_on hwf hs hd, rmonad]
  · simp only [DifferentialObj.at, LocatedObj.new, routes_evalG_off hwf hs hd,
      routes_numericPartials_off hwf hs hd, rmonad]

theorem routes_FATL_supplied (hwf : WF e) (hs : Supp p e) :
    routeFATL realNum e x p = fwdG realNum p x e := by
  rw [← routes_LD_supplied x hwf hs]
  show (DifferentialObj.mk e none).at realNum p >>= _ = _
  rw [routes_differential_late_at p e hwf hs]
  rfl

/-- C06: at a supplied point, with enough fuel and — on the domain — outside K1, all ten routes
answer what forward mode answers -/
theorem routes_all_supplied (hwf : WF e) (hs : Supp p e)
    (hK1f : Dom (valOf p) e →
      NormOK K1FreeAt REDUCTION_STEPS_BOUND NORMALIZE_FUEL (symFwd realNum x e))
    (hfuelf : RoutesFuelFwd e x) (hK1r : Dom (valOf p) e → RoutesK1Rev e)
    (hfuelr : RoutesFuelRev e) : AllPartialRoutes realNum e x p (fwdG realNum p x e) := by
  obtain ⟨d, w, hnew⟩ := routes_differentialNew_ok hfuelr
  have hvia := routes_viaStored_supplied x hwf hs hK1f hfuelf
  have hFCAE : routeFCAE realNum e x p = fwdG realNum p x e := by
    rw [routeFCAE, hnew]
    exact routes_componentAt_early x hwf hs hK1r hnew
  have hFATE : routeFATE realNum e x p = routeLD realNum e x p := by
    simp only [routeFATE, hnew, rmonad, routes_differential_early_at hwf hs hK1r hnew, routeLD]
  have hLD := routes_LD_supplied x hwf hs
  exact ⟨by rfl, (routePE_eq ..).trans hvia, (routePA_eq ..).trans hvia, by rfl, hFCAE, by rfl, hFCAE,
    routes_FATL_supplied x hwf hs, hFATE.trans hLD, hLD⟩

theorem routes_all_derivative_supplied (hwf : WF e) (hs : Supp p e)
    (hx : singleVarName e = .ok x)
    (hK1f : Dom (valOf p) e →
      NormOK K1FreeAt REDUCTION_STEPS_BOUND NORMALIZE_FUEL (symFwd realNum x e))
    (hfuelf : RoutesFuelFwd e x) : AllDerivativeRoutes realNum e p (fwdG realNum p x e) := by
  have hvia := routes_viaStored_supplied x hwf hs hK1f hfuelf
  exact ⟨by rw [routeDL_eq, hx]; rfl, by rw [routeDE_eq, hx]; exact (routePE_eq ..).trans hvia,
    by rw [routeDA_eq, hx]; exact (routePA_eq ..).trans hvia⟩

/-- the replacement for K2 that is true: the expression an early `Differential` returns for a
component (reverse symbolic route) and the one a late `Differential` returns (forward symbolic route)
both evaluate, at every supplied point of the domain of the original, to the true partial
derivative — they denote the same function there — outside K1 -/
theorem routes_K2_same_meaning (hwf : WF e)
    (hK1f : NormOK K1FreeAt REDUCTION_STEPS_BOUND NORMALIZE_FUEL (symFwd realNum x e))
    (hK1r : RoutesK1Rev e) {s₁ s₂ : Expr ℝ} {w₁ w₂ : Bool}
    (h₁ : routeExprFE realNum e x = .ok (s₁, w₁)) (h₂ : routeExprFL realNum e x = .ok (s₂, w₂))
    (hs : Supp p e) (hd : Dom (valOf p) e) :
    evalG realNum p s₁ = .ok (truePartial p x e) ∧ evalG realNum p s₂ = .ok (truePartial p x e) := by
  rw [← tp_fwd_is_truePartial p x e hwf hs hd]
  rw [routeExprFL_eq] at h₂
  refine ⟨?_, routes_retrieved_eval x hwf hK1f h₂ hs hd⟩
  rw [routeExprFE_eq] at h₁
  obtain ⟨⟨d, w⟩, hn, h₁⟩ := R.bind_eq_ok_iff.mp h₁
  cases hg : SAcc.get? d x with
  | some s =>
    simp only [hg] at h₁
    cases h₁
    exact normalizeAll_eval hwf hs hd hn hK1r hg
  | none =>
    simp only [hg] at h₁
    obtain ⟨⟨s, w'⟩, hret, h₁⟩ := R.bind_eq_ok_iff.mp h₁
    cases h₁
    exact routes_retrieved_eval x hwf hK1f hret hs hd

end real

end Smooth
