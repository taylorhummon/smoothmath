/-
Proofs/FlagFresh — the rewrite rules do not look at flags: every one of the 46 rules commutes with
`Expr.fresh` (resetting all flags) on the nodes of its class,
`r.apply N e.fresh = (r.apply N e).map fresh`; so does the choice of the first applicable reducer.
Generic in the number record `N`.
-/
import Smooth.Proofs.Shape

namespace Smooth
open Expr
variable {α : Type}

theorem ff_fresh_add (f : Flags) (as : List (Expr α)) :
    (Expr.add f as).fresh = mkAdd (as.map fresh) := by
  rw [fresh, freshList_eq_map]

theorem ff_fresh_mul (f : Flags) (as : List (Expr α)) :
    (Expr.mul f as).fresh = mkMul (as.map fresh) := by
  rw [fresh, freshList_eq_map]

theorem ff_flags_fresh (e : Expr α) : e.fresh.flags = {} := by
  cases e <;> rfl

theorem ff_children_fresh (e : Expr α) : children e.fresh = (children e).map fresh :=
  (children_fresh e).trans (freshList_eq_map _)

theorem ff_fresh_eq_rebuild (e : Expr α) : e.fresh = rebuildNode e ((children e).map fresh) := by
  cases e
  case add f as => exact ff_fresh_add f as
  case mul f as => exact ff_fresh_mul f as
  all_goals rfl

theorem ff_fresh_rebuild (e : Expr α) (cs : List (Expr α)) :
    (rebuildNode e cs).fresh = rebuildNode e (cs.map fresh) := by
  have get : ∀ i, (cs.getD i rebuildJunk).fresh = (cs.map fresh).getD i rebuildJunk := by
    intro i
    rw [List.getD_eq_getElem?_getD, List.getD_eq_getElem?_getD, List.getElem?_map]
    cases cs[i]? <;> rfl
  cases e <;> simp only [rebuildNode, fresh, get, freshList_eq_map]

theorem ff_rebuild_fresh_left (e : Expr α) (cs : List (Expr α)) :
    rebuildNode e.fresh cs = rebuildNode e cs := by
  cases e <;> rfl

theorem ff_isNaryNode_fresh (e : Expr α) : isNaryNode e.fresh = isNaryNode e := by
  cases e <;> rfl

theorem ff_fresh_unflagged : ∀ e : Expr α, Everywhere (fun s => s.flags = {}) e.fresh := by
  refine Expr.ind_children fun e ih => ?_
  rw [everywhere_iff, ff_children_fresh]
  exact ⟨ff_flags_fresh e, List.forall_mem_map.mpr ih⟩

theorem ff_fresh_fresh : ∀ e : Expr α, e.fresh.fresh = e.fresh := by
  refine Expr.ind_children fun e ih => ?_
  rw [ff_fresh_eq_rebuild e, ff_fresh_rebuild, List.map_map]
  exact congrArg _ (List.map_congr_left ih)

theorem ff_freshList_freshList : ∀ es : List (Expr α), freshList (freshList es) = freshList es
  | [] => rfl
  | e :: es => by simp [freshList, ff_fresh_fresh e, ff_freshList_freshList es]

theorem ff_varsAux_fresh (e : Expr α) : ∀ acc, varsAux e.fresh acc = varsAux e acc := by
  induction e using Expr.ind with
  | const | var => exact fun _ => rfl
  | add _ as ih | mul _ as ih =>
    simp only [fresh, mkAdd, mkMul, varsAux]
    induction as with
    | nil => exact fun _ => rfl
    | cons a as ihs =>
      intro acc
      rw [freshList, varsAuxList, varsAuxList, ih a List.mem_cons_self,
        ihs fun b hb => ih b (List.mem_cons_of_mem _ hb)]
  | minus _ _ _ ihl ihr | div _ _ _ ihl ihr | pow _ _ _ ihl ihr =>
    simp only [fresh, mkMinus, mkDiv, mkPow, varsAux, ihl, ihr, implies_true]
  | neg _ _ ih | recip _ _ ih | cos _ _ ih | sin _ _ ih | npow _ _ _ ih | nroot _ _ _ ih
  | exp _ _ _ ih | log _ _ _ ih =>
    simp only [fresh, mkNeg, mkRecip, mkCos, mkSin, mkNPow, mkNRoot, mkExp, mkLog, varsAux, ih,
      implies_true]

theorem ff_varsAuxList_fresh : ∀ (es : List (Expr α)) (acc : List String),
    varsAuxList (freshList es) acc = varsAuxList es acc
  | [], _ => rfl
  | e :: es, acc => by simp [freshList, varsAuxList, ff_varsAux_fresh e, ff_varsAuxList_fresh es]

theorem ff_vars_fresh (e : Expr α) : e.fresh.vars = e.vars := ff_varsAux_fresh e []

theorem ff_vars_setFlags (g : Flags) (e : Expr α) : (e.setFlags g).vars = e.vars := by
  rw [← ff_vars_fresh, fresh_setFlags, ff_vars_fresh]

theorem ff_isConstNode_fresh (e : Expr α) : isConstNode e.fresh = isConstNode e := by
  cases e <;> rfl

theorem ff_isConstNode_setFlags (g : Flags) (e : Expr α) :
    isConstNode (e.setFlags g) = isConstNode e := by
  cases e <;> rfl

theorem ff_asConst_fresh (e : Expr α) : asConst e.fresh = asConst e := by cases e <;> rfl

theorem ff_isConstSuch_fresh (p : α → Bool) (e : Expr α) :
    isConstSuch p e.fresh = isConstSuch p e := by
  unfold isConstSuch; rw [ff_asConst_fresh]

theorem ff_asAdd_fresh (e : Expr α) : asAdd e.fresh = (asAdd e).map (List.map fresh) := by
  cases e
  case add f as => exact congrArg some (freshList_eq_map as)
  all_goals rfl
theorem ff_asMul_fresh (e : Expr α) : asMul e.fresh = (asMul e).map (List.map fresh) := by
  cases e
  case mul f as => exact congrArg some (freshList_eq_map as)
  all_goals rfl
theorem ff_asNeg_fresh (e : Expr α) : asNeg e.fresh = (asNeg e).map fresh := by
  cases e <;> rfl
theorem ff_asRecip_fresh (e : Expr α) : asRecip e.fresh = (asRecip e).map fresh := by
  cases e <;> rfl
theorem ff_asLog_fresh (e : Expr α) :
    asLog e.fresh = (asLog e).map fun p => (p.1, p.2.fresh) := by
  cases e <;> rfl
theorem ff_asExp_fresh (e : Expr α) :
    asExp e.fresh = (asExp e).map fun p => (p.1, p.2.fresh) := by
  cases e <;> rfl
theorem ff_asNPow_fresh (e : Expr α) :
    asNPow e.fresh = (asNPow e).map fun p => (p.1, p.2.fresh) := by
  cases e <;> rfl
theorem ff_asNRoot_fresh (e : Expr α) :
    asNRoot e.fresh = (asNRoot e).map fun p => (p.1, p.2.fresh) := by
  cases e <;> rfl

theorem ff_spliceFirst (sel : Expr α → Option (List (Expr α)))
    (hsel : ∀ e, sel e.fresh = (sel e).map (List.map fresh)) :
    ∀ as : List (Expr α),
      spliceFirst sel (freshList as) = (spliceFirst sel as).map (List.map fresh)
  | [] => rfl
  | e :: es => by
    simp only [freshList, spliceFirst, hsel]
    cases hs : sel e with
    | some inner => simp [freshList_eq_map]
    | none =>
      simp only [ff_spliceFirst sel hsel es, Option.map_none, Option.map_map]
      congr 1

section Group
variable {κ β γ : Type}

theorem ff_groupInsert (f : β → γ) (eq : κ → κ → Bool) (k : κ) (v : β) :
    ∀ G : List (κ × List β),
      groupInsert eq k (f v) (G.map fun g => (g.1, g.2.map f)) =
        (groupInsert eq k v G).map fun g => (g.1, g.2.map f)
  | [] => by simp [groupInsert]
  | (k', vs) :: rest => by
    simp only [List.map_cons, groupInsert]
    by_cases hk : eq k' k
    · simp [hk]
    · simp [hk, ff_groupInsert f eq k v rest]

theorem ff_foldl_groupInsert (f : β → γ) (eq : κ → κ → Bool) :
    ∀ (items : List (κ × β)) (acc : List (κ × List β)),
      (items.map fun kv => (kv.1, f kv.2)).foldl (fun g kv => groupInsert eq kv.1 kv.2 g)
          (acc.map fun g => (g.1, g.2.map f)) =
        (items.foldl (fun g kv => groupInsert eq kv.1 kv.2 g) acc).map fun g => (g.1, g.2.map f)
  | [], acc => rfl
  | kv :: items, acc => by
    simp only [List.map_cons, List.foldl_cons]
    rw [ff_groupInsert f eq kv.1 kv.2 acc]
    exact ff_foldl_groupInsert f eq items _

theorem ff_groupByKey (f : β → γ) (eq : κ → κ → Bool) (items : List (κ × β)) :
    groupByKey eq (items.map fun kv => (kv.1, f kv.2)) =
      (groupByKey eq items).map fun g => (g.1, g.2.map f) :=
  ff_foldl_groupInsert f eq items []

end Group

theorem ff_consolidate {κ : Type} (sel : Expr α → Option (κ × Expr α)) (eq : κ → κ → Bool)
    (build : κ → List (Expr α) → Expr α)
    (hsel : ∀ e, sel e.fresh = (sel e).map fun p => (p.1, p.2.fresh))
    (hbuild : ∀ k vs, (build k vs).fresh = build k (vs.map fresh)) (as : List (Expr α)) :
    consolidate sel eq build (freshList as) =
      (consolidate sel eq build as).map (List.map fresh) := by
  rw [freshList_eq_map]
  unfold consolidate
  simp only [List.filterMap_map, List.filter_map, Function.comp_def, hsel, Option.isNone_map,
    ← List.map_filterMap, List.length_map, ff_groupByKey, List.all_map]
  split
  · rfl
  · split
    · rfl
    · simp only [Option.map_some, List.map_append, List.map_map, Function.comp_def, hbuild]

/-- the shape of the flattening and consolidation rules: a list operation that commutes with
`fresh`, then the constructor of the class -/
theorem ff_nary {op : List (Expr α) → Option (List (Expr α))} {mk : List (Expr α) → Expr α}
    {as : List (Expr α)} (hop : op (freshList as) = (op as).map (List.map fresh))
    (hmk : ∀ l, (mk l).fresh = mk (l.map fresh)) :
    (op (freshList as)).map mk = ((op as).map mk).map fresh := by
  rw [hop, Option.map_map, Option.map_map]
  congr 1
  funext l
  exact (hmk l).symm

section Rules
variable (N : Num α) (f : Flags) (u l r : Expr α) (as : List (Expr α)) (n : Nat) (b : α)

theorem ff_ruleAddFlatten :
    ruleAddFlatten (Expr.add f as).fresh = (ruleAddFlatten (.add f as)).map fresh :=
  ff_nary (ff_spliceFirst asAdd ff_asAdd_fresh _) (ff_fresh_add {})

theorem ff_ruleAddZeros :
    ruleAddZeros N (Expr.add f as).fresh = (ruleAddZeros N (.add f as)).map fresh := by
  simp only [ff_fresh_add, mkAdd, ruleAddZeros, List.filter_map, List.length_map,
    Function.comp_def, ff_isConstSuch_fresh, apply_ite (Option.map fresh), Option.map_none,
    Option.map_some]

theorem ff_ruleAddLogs :
    ruleAddLogs N (Expr.add f as).fresh = (ruleAddLogs N (.add f as)).map fresh := by
  refine ff_nary (ff_consolidate asLog N.eq _ ff_asLog_fresh (fun k vs => ?_) _) (ff_fresh_add {})
  rw [mkLog, mkMul, fresh, ff_fresh_mul]

theorem ff_ruleAddConsts :
    ruleAddConsts N (Expr.add f as).fresh = (ruleAddConsts N (.add f as)).map fresh := by
  simp only [ff_fresh_add, mkAdd, ruleAddConsts, List.filter_map, List.filterMap_map,
    Function.comp_def, ff_asConst_fresh, apply_ite (Option.map fresh), Option.map_none,
    Option.map_some, List.map_append]
  rfl

theorem ff_ruleNegSum : ruleNegSum (Expr.neg f u).fresh = (ruleNegSum (.neg f u)).map fresh := by
  cases u <;> try rfl
  simp [fresh, ruleNegSum, freshList_eq_map, Function.comp_def]

theorem ff_ruleMulFlatten :
    ruleMulFlatten (Expr.mul f as).fresh = (ruleMulFlatten (.mul f as)).map fresh :=
  ff_nary (ff_spliceFirst asMul ff_asMul_fresh _) (ff_fresh_mul {})

theorem ff_ruleMulZero :
    ruleMulZero N (Expr.mul f as).fresh = (ruleMulZero N (.mul f as)).map fresh := by
  simp only [ff_fresh_mul, mkMul, ruleMulZero, List.any_map, Function.comp_def,
    ff_isConstSuch_fresh, apply_ite (Option.map fresh), Option.map_none, Option.map_some]
  rfl

theorem ff_ruleMulOnes :
    ruleMulOnes N (Expr.mul f as).fresh = (ruleMulOnes N (.mul f as)).map fresh := by
  simp only [ff_fresh_mul, mkMul, ruleMulOnes, List.filter_map, List.length_map,
    Function.comp_def, ff_isConstSuch_fresh, apply_ite (Option.map fresh), Option.map_none,
    Option.map_some]

theorem ff_ruleMulNegs :
    ruleMulNegs N (Expr.mul f as).fresh = (ruleMulNegs N (.mul f as)).map fresh := by
  simp only [ff_fresh_mul, mkMul, ruleMulNegs, List.filter_map, List.filterMap_map,
    Function.comp_def, ff_asNeg_fresh, Option.isNone_map, ← List.map_filterMap, List.length_map,
    apply_ite (Option.map fresh), Option.map_none, Option.map_some, List.map_append]
  rfl

theorem ff_ruleMulNPows :
    ruleMulNPows (Expr.mul f as).fresh = (ruleMulNPows (.mul f as)).map fresh := by
  refine ff_nary (ff_consolidate asNPow _ _ ff_asNPow_fresh (fun k vs => ?_) _) (ff_fresh_mul {})
  rw [mkNPow, mkMul, fresh, ff_fresh_mul]

theorem ff_ruleMulNRoots :
    ruleMulNRoots (Expr.mul f as).fresh = (ruleMulNRoots (.mul f as)).map fresh := by
  refine ff_nary (ff_consolidate asNRoot _ _ ff_asNRoot_fresh (fun k vs => ?_) _) (ff_fresh_mul {})
  rw [mkNRoot, mkMul, fresh, ff_fresh_mul]

theorem ff_ruleMulExps :
    ruleMulExps N (Expr.mul f as).fresh = (ruleMulExps N (.mul f as)).map fresh := by
  refine ff_nary (ff_consolidate asExp N.eq _ ff_asExp_fresh (fun k vs => ?_) _) (ff_fresh_mul {})
  rw [mkExp, mkAdd, fresh, ff_fresh_add]

theorem ff_ruleMulConsts :
    ruleMulConsts N (Expr.mul f as).fresh = (ruleMulConsts N (.mul f as)).map fresh := by
  simp only [ff_fresh_mul, mkMul, ruleMulConsts, List.filter_map, List.filterMap_map,
    Function.comp_def, ff_asConst_fresh, apply_ite (Option.map fresh), Option.map_none,
    Option.map_some, List.map_append]
  rfl

theorem ff_ruleRecipProd :
    ruleRecipProd (Expr.recip f u).fresh = (ruleRecipProd (.recip f u)).map fresh := by
  cases u <;> try rfl
  simp [fresh, ruleRecipProd, freshList_eq_map, Function.comp_def]

theorem ff_rulePowOne :
    rulePowOne N (Expr.pow f l r).fresh = (rulePowOne N (.pow f l r)).map fresh := by
  simp only [fresh, rulePowOne, mkPow, ff_isConstSuch_fresh]
  split <;> rfl

theorem ff_rulePowZero :
    rulePowZero N (Expr.pow f l r).fresh = (rulePowZero N (.pow f l r)).map fresh := by
  simp only [fresh, rulePowZero, mkPow, ff_isConstSuch_fresh]
  split <;> rfl

theorem ff_ruleOnePow :
    ruleOnePow N (Expr.pow f l r).fresh = (ruleOnePow N (.pow f l r)).map fresh := by
  simp only [fresh, ruleOnePow, mkPow, ff_isConstSuch_fresh]
  split <;> rfl

theorem ff_rulePowNat :
    rulePowNat N (Expr.pow f l r).fresh = (rulePowNat N (.pow f l r)).map fresh := by
  cases r <;> try rfl
  simp only [fresh, rulePowNat]
  split
  · split <;> rfl
  · rfl

theorem ff_rulePowNegOne :
    rulePowNegOne N (Expr.pow f l r).fresh = (rulePowNegOne N (.pow f l r)).map fresh := by
  simp only [fresh, rulePowNegOne, mkPow, ff_isConstSuch_fresh]
  split <;> rfl

theorem ff_rulePowConstBase :
    rulePowConstBase N (Expr.pow f l r).fresh = (rulePowConstBase N (.pow f l r)).map fresh := by
  cases l <;> try rfl
  simp only [fresh, rulePowConstBase]
  split <;> rfl

theorem ff_ruleNPowOne :
    ruleNPowOne (Expr.npow f u n).fresh = (ruleNPowOne (.npow f u n)).map fresh := by
  simp only [fresh, ruleNPowOne, mkNPow]
  split <;> rfl

theorem ff_ruleNPowRoot :
    ruleNPowRoot (Expr.npow f u n).fresh = (ruleNPowRoot (.npow f u n)).map fresh := by
  cases u <;> try rfl
  simp only [fresh, ruleNPowRoot]
  split
  · rfl
  · split <;> rfl

theorem ff_ruleNPowNeg :
    ruleNPowNeg (Expr.npow f u n).fresh = (ruleNPowNeg (.npow f u n)).map fresh := by
  cases u <;> try rfl
  simp only [fresh, ruleNPowNeg]
  split <;> rfl

theorem ff_ruleNRootOne :
    ruleNRootOne (Expr.nroot f u n).fresh = (ruleNRootOne (.nroot f u n)).map fresh := by
  simp only [fresh, ruleNRootOne, mkNRoot]
  split <;> rfl

theorem ff_ruleNRootNeg :
    ruleNRootNeg (Expr.nroot f u n).fresh = (ruleNRootNeg (.nroot f u n)).map fresh := by
  cases u <;> try rfl
  simp only [fresh, ruleNRootNeg]
  split <;> rfl

theorem ff_ruleExpLog :
    ruleExpLog N (Expr.exp f u b).fresh = (ruleExpLog N (.exp f u b)).map fresh := by
  cases u <;> try rfl
  simp only [fresh, ruleExpLog]
  split <;> rfl

theorem ff_ruleLogExp :
    ruleLogExp N (Expr.log f u b).fresh = (ruleLogExp N (.log f u b)).map fresh := by
  cases u <;> try rfl
  simp only [fresh, ruleLogExp]
  split <;> rfl

theorem ff_ruleLogNPow :
    ruleLogNPow N (Expr.log f u b).fresh = (ruleLogNPow N (.log f u b)).map fresh := by
  cases u <;> try rfl
  simp only [fresh, ruleLogNPow]
  split <;> rfl

end Rules

/-- every reducer of the class of a node commutes with resetting the flags; the rules that only
match constructors and rebuild do so by computation -/
theorem ff_apply_fresh (N : Num α) (e : Expr α) :
    ∀ r ∈ reducers e, r.apply N e.fresh = (r.apply N e).map fresh := by
  cases e <;> simp only [reducers, List.forall_mem_cons, List.not_mem_nil, false_imp_iff,
    implies_true, and_true]
  case add f as =>
    exact ⟨ff_ruleAddFlatten f as, ff_ruleAddZeros N f as, ff_ruleAddLogs N f as,
      ff_ruleAddConsts N f as⟩
  case minus => rfl
  case neg f u => exact ⟨by cases u <;> rfl, ff_ruleNegSum f u⟩
  case mul f as =>
    exact ⟨ff_ruleMulFlatten f as, ff_ruleMulZero N f as, ff_ruleMulOnes N f as,
      ff_ruleMulNegs N f as, ff_ruleMulNPows f as, ff_ruleMulNRoots f as, ff_ruleMulExps N f as,
      ff_ruleMulConsts N f as⟩
  case div => rfl
  case recip f u => exact ⟨by cases u <;> rfl, by cases u <;> rfl, ff_ruleRecipProd f u⟩
  case pow f l r =>
    exact ⟨ff_rulePowOne N f l r, ff_rulePowZero N f l r, ff_ruleOnePow N f l r,
      ff_rulePowNat N f l r, ff_rulePowNegOne N f l r, ff_rulePowConstBase N f l r,
      by cases l <;> rfl, by cases r <;> rfl, by cases l <;> rfl⟩
  case npow f u n =>
    exact ⟨ff_ruleNPowOne f u n, ff_ruleNPowRoot f u n, by cases u <;> rfl, ff_ruleNPowNeg f u n,
      by cases u <;> rfl, by cases u <;> rfl⟩
  case nroot f u n =>
    exact ⟨ff_ruleNRootOne f u n, by cases u <;> rfl, by cases u <;> rfl, ff_ruleNRootNeg f u n,
      by cases u <;> rfl⟩
  case exp f u b => exact ⟨ff_ruleExpLog N f u b, by cases u <;> rfl⟩
  case log f u b => exact ⟨ff_ruleLogExp N f u b, by cases u <;> rfl, ff_ruleLogNPow N f u b⟩
  case cos f u => cases u <;> rfl
  case sin f u => cases u <;> rfl

theorem ff_reducers_fresh (e : Expr α) : reducers e.fresh = reducers e := by
  cases e <;> rfl

theorem ff_firstRule_fresh (N : Num α) (e : Expr α) :
    firstRule N e.fresh (reducers e.fresh) =
      (firstRule N e (reducers e)).map fun p => (p.1, p.2.fresh) := by
  rw [ff_reducers_fresh]
  have h := ff_apply_fresh N e
  generalize reducers e = rs at h
  induction rs with
  | nil => rfl
  | cons r rs ih =>
    rw [List.forall_mem_cons] at h
    simp only [firstRule, h.1]
    cases r.apply N e with
    | some e' => rfl
    | none => exact ih h.2

end Smooth
