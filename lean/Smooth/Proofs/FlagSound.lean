/-
Proofs/FlagSound — what the two reduction memo flags promise (`FlagsSound`), and that every one of the
46 rules keeps the promise: the nodes of the rewritten expression are nodes of the old one or fresh.

`red` (`_is_fully_reduced`): no rule of the node's class applies at its root, every child is flagged,
and constant folding does not succeed at the node.  `failed` (`_evaluation_failed`): the node is
variable-free and evaluating it raises `DomainError`.  `FlagsSound N e`: this holds of every node of
`e`, at any depth.  Generic in the number record `N`.
-/
import Smooth.Proofs.Settled

namespace Smooth
open Expr
variable {α : Type}

/-- constant folding (`_consolidate_expression_lacking_variables`) does not succeed at `s` -/
def NoFold (N : Num α) (s : Expr α) : Prop :=
  s.vars.isEmpty = true → isConstNode s = false → ∀ v, evalG N [] s ≠ .ok v

/-- `s` is variable-free and its evaluation raises `DomainError` -/
def ReallyFails (N : Num α) (s : Expr α) : Prop :=
  s.vars.isEmpty = true ∧ evalG N [] s = .error .domain

/-- what the two flags of the node `s` promise about `s` -/
def NodeSound (N : Num α) (s : Expr α) : Prop :=
  (s.isRed = true → Honest N s ∧ NoFold N s) ∧ (s.flags.failed = true → ReallyFails N s)

/-- every flag in `e`, at any depth, keeps its promise -/
def FlagsSound (N : Num α) (e : Expr α) : Prop :=
  ∀ s, Sub s e → NodeSound N s

theorem FlagsSound.settled {N : Num α} {e : Expr α} (h : FlagsSound N e) : Settled N e :=
  fun s hs hr => ((h s hs).1 hr).1

theorem flagsSound_iff (N : Num α) (e : Expr α) :
    FlagsSound N e ↔ NodeSound N e ∧ ∀ c ∈ children e, FlagsSound N c :=
  everywhere_iff

theorem FlagsSound.sub {N : Num α} {e s : Expr α} (h : FlagsSound N e) (hs : Sub s e) :
    FlagsSound N s :=
  Everywhere.sub h hs

theorem FlagsSound.child {N : Num α} {e c : Expr α} (h : FlagsSound N e) (hc : c ∈ children e) :
    FlagsSound N c :=
  Everywhere.child h hc

theorem nodeSound_of_default (N : Num α) (e : Expr α) (h : e.flags = {}) : NodeSound N e := by
  constructor
  · intro hr; simp [isRed, h] at hr
  · intro hf; simp [h] at hf

theorem flagsSound_of_default (N : Num α) {e : Expr α} (h : e.flags = {}) :
    FlagsSound N e ↔ ∀ c ∈ children e, FlagsSound N c :=
  everywhere_new (nodeSound_of_default N) h

theorem flagsSound_fresh (N : Num α) (e : Expr α) : FlagsSound N e.fresh :=
  fun s hs => nodeSound_of_default N s (ff_fresh_unflagged e s hs)

theorem rule_flagsSound (N : Num α) (r : RuleId) {e e' : Expr α} (h : r.apply N e = some e')
    (hs : FlagsSound N e) : FlagsSound N e' :=
  rule_everywhere (nodeSound_of_default N) h hs

theorem noFold_setFlags (N : Num α) (g : Flags) (e : Expr α) :
    NoFold N (e.setFlags g) ↔ NoFold N e := by
  unfold NoFold
  rw [ff_vars_setFlags, ff_isConstNode_setFlags, evalG_setFlags]

theorem reallyFails_setFlags (N : Num α) (g : Flags) (e : Expr α) :
    ReallyFails N (e.setFlags g) ↔ ReallyFails N e := by
  unfold ReallyFails
  rw [ff_vars_setFlags, evalG_setFlags]

theorem flagsSound_setFlags (N : Num α) (g : Flags) (e : Expr α) :
    FlagsSound N (e.setFlags g) ↔
      ((g.red = true → Honest N e ∧ NoFold N e) ∧ (g.failed = true → ReallyFails N e)) ∧
        ∀ c ∈ children e, FlagsSound N c := by
  rw [flagsSound_iff, children_setFlags, NodeSound, honest_setFlags, noFold_setFlags,
    reallyFails_setFlags, isRed, flags_setFlags]

section Nodes
variable (N : Num α)

@[simp] theorem flagsSound_mkMinus (l r : Expr α) :
    FlagsSound N (mkMinus l r) ↔ FlagsSound N l ∧ FlagsSound N r :=
  (flagsSound_of_default N rfl).trans
    (List.forall_mem_cons.trans (and_congr_right' List.forall_mem_singleton))
@[simp] theorem flagsSound_mkDiv (l r : Expr α) :
    FlagsSound N (mkDiv l r) ↔ FlagsSound N l ∧ FlagsSound N r :=
  (flagsSound_of_default N rfl).trans
    (List.forall_mem_cons.trans (and_congr_right' List.forall_mem_singleton))

end Nodes

/-! ### taking a concrete node apart (for examples) -/

section Concrete
variable (N : Num α) (f : Flags) (u l r : Expr α) (as : List (Expr α)) (n : Nat) (b v : α)
  (x : String)

theorem flagsSound_const : FlagsSound N (.const f v) ↔ NodeSound N (.const f v) :=
  (flagsSound_iff N _).trans (and_iff_left nofun)
theorem flagsSound_var : FlagsSound N (.var f x : Expr α) ↔ NodeSound N (.var f x : Expr α) :=
  (flagsSound_iff N _).trans (and_iff_left nofun)
theorem flagsSound_add :
    FlagsSound N (.add f as) ↔ NodeSound N (.add f as) ∧ ∀ a ∈ as, FlagsSound N a :=
  flagsSound_iff N _
theorem flagsSound_mul :
    FlagsSound N (.mul f as) ↔ NodeSound N (.mul f as) ∧ ∀ a ∈ as, FlagsSound N a :=
  flagsSound_iff N _
theorem flagsSound_minus :
    FlagsSound N (.minus f l r) ↔ NodeSound N (.minus f l r) ∧ FlagsSound N l ∧ FlagsSound N r :=
  (flagsSound_iff N _).trans (and_congr_right'
    (List.forall_mem_cons.trans (and_congr_right' List.forall_mem_singleton)))
theorem flagsSound_div :
    FlagsSound N (.div f l r) ↔ NodeSound N (.div f l r) ∧ FlagsSound N l ∧ FlagsSound N r :=
  (flagsSound_iff N _).trans (and_congr_right'
    (List.forall_mem_cons.trans (and_congr_right' List.forall_mem_singleton)))
theorem flagsSound_pow :
    FlagsSound N (.pow f l r) ↔ NodeSound N (.pow f l r) ∧ FlagsSound N l ∧ FlagsSound N r :=
  (flagsSound_iff N _).trans (and_congr_right'
    (List.forall_mem_cons.trans (and_congr_right' List.forall_mem_singleton)))
theorem flagsSound_neg : FlagsSound N (.neg f u) ↔ NodeSound N (.neg f u) ∧ FlagsSound N u :=
  (flagsSound_iff N _).trans (and_congr_right' List.forall_mem_singleton)
theorem flagsSound_recip :
    FlagsSound N (.recip f u) ↔ NodeSound N (.recip f u) ∧ FlagsSound N u :=
  (flagsSound_iff N _).trans (and_congr_right' List.forall_mem_singleton)
theorem flagsSound_npow :
    FlagsSound N (.npow f u n) ↔ NodeSound N (.npow f u n) ∧ FlagsSound N u :=
  (flagsSound_iff N _).trans (and_congr_right' List.forall_mem_singleton)
theorem flagsSound_nroot :
    FlagsSound N (.nroot f u n) ↔ NodeSound N (.nroot f u n) ∧ FlagsSound N u :=
  (flagsSound_iff N _).trans (and_congr_right' List.forall_mem_singleton)
theorem flagsSound_exp :
    FlagsSound N (.exp f u b) ↔ NodeSound N (.exp f u b) ∧ FlagsSound N u :=
  (flagsSound_iff N _).trans (and_congr_right' List.forall_mem_singleton)
theorem flagsSound_log :
    FlagsSound N (.log f u b) ↔ NodeSound N (.log f u b) ∧ FlagsSound N u :=
  (flagsSound_iff N _).trans (and_congr_right' List.forall_mem_singleton)
theorem flagsSound_cos : FlagsSound N (.cos f u) ↔ NodeSound N (.cos f u) ∧ FlagsSound N u :=
  (flagsSound_iff N _).trans (and_congr_right' List.forall_mem_singleton)
theorem flagsSound_sin : FlagsSound N (.sin f u) ↔ NodeSound N (.sin f u) ∧ FlagsSound N u :=
  (flagsSound_iff N _).trans (and_congr_right' List.forall_mem_singleton)

end Concrete

end Smooth
