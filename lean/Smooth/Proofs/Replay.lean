/-
Proofs/Replay — replaying `_fully_reduce` compositionally.

`_take_reduction_step` on a node that is not flagged and contains a variable (so that constant folding
is not attempted) steps its first unflagged operand and rebuilds a fresh node around the result.  The
run of the loop on an operand is therefore also the run on the node, as long as the operand is not
flagged: `ReplaySteps.congr`.  A concrete run is put together from the runs of its operands and the
few steps taken at the node itself, and no intermediate tree has to be written down.

Over the reals, a replayed run whose events do not include the rule `nrootPow` and which ends in a
completely flagged tree meets the K1 side condition of the soundness theorems (`ReplaySteps.normOK`),
and `_normalize` returns what the normal-form pass makes of that tree (`ReplaySteps.normalize`).
-/
import Smooth.Proofs.DriverSound
import Smooth.Proofs.RulesUnary

namespace Smooth
open Expr
variable {α : Type} {N : Num α}

/-- the flags of a node that `_take_reduction_step` has marked fully reduced -/
abbrev Flags.reduced : Flags := { red := true }

theorem vars_ne_nil_iff {e : Expr α} : e.vars ≠ [] ↔ ∃ x, Occurs x e :=
  ⟨fun h => (List.exists_mem_of_ne_nil _ h).imp fun x => (mem_vars x e).mp,
    fun ⟨x, hx⟩ => List.ne_nil_of_mem ((mem_vars x e).mpr hx)⟩

theorem vars_ne_nil_mono {c e : Expr α} (h : ∀ x, Occurs x c → Occurs x e) (hc : c.vars ≠ []) :
    e.vars ≠ [] := by
  obtain ⟨x, hx⟩ := vars_ne_nil_iff.mp hc
  exact vars_ne_nil_iff.mpr ⟨x, h x hx⟩

theorem occursList_operand {x : String} {c : Expr α} (pre post : List (Expr α)) (h : Occurs x c) :
    OccursList x (pre ++ c :: post) := by
  induction pre with
  | nil => exact Or.inl h
  | cons a pre ih => exact Or.inr ih

theorem foldAttempt_of_vars {e : Expr α} (h : e.vars ≠ []) : foldAttempt N e = none := by
  simp [foldAttempt, h]

theorem stepNode_operand {self : Expr α} {k : Unit → Option (Expr α × StepEvent)}
    {r : Expr α × StepEvent} (hr : self.isRed = false) (hv : self.vars ≠ []) (hk : k () = some r) :
    stepNode N self k = r := by
  simp only [stepNode, hr, foldAttempt_of_vars hv, hk, Bool.false_eq_true, if_false]

theorem stepNode_top {self : Expr α} {k : Unit → Option (Expr α × StepEvent)}
    (hr : self.isRed = false) (hv : self.vars ≠ []) (hk : k () = none) :
    stepNode N self k = stepTop N self := by
  simp only [stepNode, hr, foldAttempt_of_vars hv, hk, Bool.false_eq_true, if_false,
    Option.isSome_none]

theorem stepFirstUnreduced_flagged {as : List (Expr α)} (h : as.all isRed = true) :
    stepFirstUnreduced N as = none := by
  induction as with
  | nil => rfl
  | cons a as ih =>
    simp only [List.all_cons, Bool.and_eq_true] at h
    simp only [stepFirstUnreduced, h.1, Bool.not_true, Bool.false_eq_true, if_false, ih h.2,
      Option.map_none]

theorem stepF_add_top {f : Flags} {as : List (Expr α)} (hr : f.red = false)
    (hv : (Expr.add f as).vars ≠ []) (h : as.all isRed = true) :
    stepF N (.add f as) = stepTop N (.add f as) := by
  rw [stepF]
  exact stepNode_top hr hv (by rw [stepFirstUnreduced_flagged h]; rfl)

theorem stepF_mul_top {f : Flags} {as : List (Expr α)} (hr : f.red = false)
    (hv : (Expr.mul f as).vars ≠ []) (h : as.all isRed = true) :
    stepF N (.mul f as) = stepTop N (.mul f as) := by
  rw [stepF]
  exact stepNode_top hr hv (by rw [stepFirstUnreduced_flagged h]; rfl)

theorem stepFirstUnreduced_operand {pre post : List (Expr α)} {c : Expr α}
    (hpre : pre.all isRed = true) (hc : c.isRed = false) :
    stepFirstUnreduced N (pre ++ c :: post) =
      some (pre ++ (stepF N c).1 :: post, (stepF N c).2) := by
  induction pre with
  | nil => simp only [List.nil_append, stepFirstUnreduced, hc, Bool.not_false, if_true]
  | cons a pre ih =>
    simp only [List.all_cons, Bool.and_eq_true] at hpre
    simp only [List.cons_append, stepFirstUnreduced, hpre.1, Bool.not_true, Bool.false_eq_true,
      if_false, ih hpre.2, Option.map_some]

/-- `C` puts an expression into an operand position of a fresh node in which every operand to the
left is flagged: the node is not flagged, has the variables of the operand, and (when it has one)
its step is the step of the operand, as long as that is not flagged. -/
structure IsCtx (N : Num α) (C : Expr α → Expr α) : Prop where
  isRed : ∀ c, (C c).isRed = false
  vars : ∀ {c}, c.vars ≠ [] → (C c).vars ≠ []
  step : ∀ {c}, c.isRed = false → (C c).vars ≠ [] →
    stepF N (C c) = (C (stepF N c).1, (stepF N c).2)

theorem isCtx_neg : IsCtx N mkNeg :=
  ⟨fun _ => rfl, id, fun hc hv => by rw [stepF]; exact stepNode_operand rfl hv (by rw [hc]; rfl)⟩

theorem isCtx_npow (n : Nat) : IsCtx N (mkNPow · n) :=
  ⟨fun _ => rfl, id, fun hc hv => by rw [stepF]; exact stepNode_operand rfl hv (by rw [hc]; rfl)⟩

theorem isCtx_nroot (n : Nat) : IsCtx N (mkNRoot · n) :=
  ⟨fun _ => rfl, id, fun hc hv => by rw [stepF]; exact stepNode_operand rfl hv (by rw [hc]; rfl)⟩

theorem isCtx_cos : IsCtx N mkCos :=
  ⟨fun _ => rfl, id, fun hc hv => by rw [stepF]; exact stepNode_operand rfl hv (by rw [hc]; rfl)⟩

theorem isCtx_sin : IsCtx N mkSin :=
  ⟨fun _ => rfl, id, fun hc hv => by rw [stepF]; exact stepNode_operand rfl hv (by rw [hc]; rfl)⟩

theorem isCtx_div_left (r : Expr α) : IsCtx N (mkDiv · r) :=
  ⟨fun _ => rfl, vars_ne_nil_mono fun _ => Or.inl,
    fun hc hv => by rw [stepF]; exact stepNode_operand rfl hv (by rw [hc]; rfl)⟩

theorem isCtx_div_right {l : Expr α} (hl : l.isRed = true) : IsCtx N (mkDiv l ·) :=
  ⟨fun _ => rfl, vars_ne_nil_mono fun _ => Or.inr,
    fun hc hv => by rw [stepF]; exact stepNode_operand rfl hv (by rw [hl, hc]; rfl)⟩

theorem isCtx_add (pre post : List (Expr α)) (hpre : pre.all isRed = true) :
    IsCtx N fun c => mkAdd (pre ++ c :: post) :=
  ⟨fun _ => rfl, vars_ne_nil_mono fun _ => occursList_operand pre post, fun hc hv => by
    rw [stepF]
    exact stepNode_operand rfl hv (by rw [stepFirstUnreduced_operand hpre hc]; rfl)⟩

theorem isCtx_mul (pre post : List (Expr α)) (hpre : pre.all isRed = true) :
    IsCtx N fun c => mkMul (pre ++ c :: post) :=
  ⟨fun _ => rfl, vars_ne_nil_mono fun _ => occursList_operand pre post, fun hc hv => by
    rw [stepF]
    exact stepNode_operand rfl hv (by rw [stepFirstUnreduced_operand hpre hc]; rfl)⟩

/-- `ReplaySteps N e evs e'` : starting from `e`, the reduction loop takes exactly the steps with events
`evs`, each of them on a root that is not flagged and contains a variable, and arrives at `e'` -/
inductive ReplaySteps (N : Num α) : Expr α → List StepEvent → Expr α → Prop
  | nil (e : Expr α) : ReplaySteps N e [] e
  | cons {e e' e'' : Expr α} {ev : StepEvent} {evs : List StepEvent} :
      e.isRed = false → e.vars ≠ [] → stepF N e = (e', ev) → ReplaySteps N e' evs e'' →
      ReplaySteps N e (ev :: evs) e''

namespace ReplaySteps

theorem single {e e' : Expr α} {ev : StepEvent} (hr : e.isRed = false) (hv : e.vars ≠ [])
    (hs : stepF N e = (e', ev)) : ReplaySteps N e [ev] e' :=
  .cons hr hv hs (.nil e')

theorem flag {e : Expr α} (hr : e.isRed = false) (hv : e.vars ≠ [])
    (hs : stepF N e = (e.markRed, .flag)) : ReplaySteps N e [.flag] e.markRed :=
  single hr hv hs

theorem rule (r : RuleId) {e e' : Expr α} (hr : e.isRed = false) (hv : e.vars ≠ [])
    (hs : stepF N e = (e', .rule r)) : ReplaySteps N e [.rule r] e' :=
  single hr hv hs

theorem var (x : String) : ReplaySteps N (mkVar x) [.flag] (.var .reduced x) :=
  single rfl (by simp [vars, varsAux]) rfl

theorem append {a b c : Expr α} {evs evs' : List StepEvent} (h : ReplaySteps N a evs b)
    (h' : ReplaySteps N b evs' c) : ReplaySteps N a (evs ++ evs') c := by
  induction h with
  | nil => exact h'
  | cons hr hv hs _ ih => exact .cons hr hv hs (ih h')

theorem congr {C : Expr α → Expr α} (hC : IsCtx N C) {c c' : Expr α} {evs : List StepEvent}
    (h : ReplaySteps N c evs c') : ReplaySteps N (C c) evs (C c') := by
  induction h with
  | nil => exact .nil _
  | cons hr hv hs _ ih => exact .cons (hC.isRed _) (hC.vars hv) (by rw [hC.step hr (hC.vars hv), hs]) ih

theorem loop {e e' : Expr α} {evs : List StepEvent} (h : ReplaySteps N e evs e')
    (hred : e'.isRed = true) : ∀ (fuel k : Nat) (tr : List StepEvent), evs.length < fuel →
      fullyReduceLoop N fuel e k tr = ⟨e', false, k + evs.length, tr.reverse ++ evs⟩ := by
  induction h with
  | nil e =>
    intro fuel k tr hlt
    obtain ⟨f, rfl⟩ : ∃ f, fuel = f + 1 := ⟨fuel - 1, by simp at hlt; omega⟩
    simp [fullyReduceLoop, hred]
  | @cons e e' e'' ev evs hr _ hs _ ih =>
    intro fuel k tr hlt
    obtain ⟨f, rfl⟩ : ∃ f, fuel = f + 1 := ⟨fuel - 1, by simp at hlt; omega⟩
    have := ih hred f (k + 1) (ev :: tr) (by simpa using hlt)
    simp only [fullyReduceLoop, hr, Bool.false_eq_true, if_false, hs, this, List.reverse_cons,
      List.append_assoc, List.singleton_append, List.length_cons]
    congr 1
    omega

theorem fullyReduce {e e' : Expr α} {evs : List StepEvent} (h : ReplaySteps N e evs e')
    (hred : e'.isRed = true) {bound : Nat} (hlt : evs.length < bound) :
    fullyReduceWith N bound e = ⟨e', false, evs.length, evs⟩ := by
  simpa [fullyReduceWith] using h.loop hred bound 0 [] hlt

theorem normalizeF {e e' r : Expr α} {evs : List StepEvent} (h : ReplaySteps N e evs e')
    (hred : e'.isRed = true) {bound : Nat} (hlt : evs.length < bound) {fuel : Nat}
    (hnf : normReducedF N bound fuel e' = some (r, false)) :
    normalizeF N bound (fuel + 1) e = some (r, false) := by
  simp only [Smooth.normalizeF, h.fullyReduce hred hlt, hnf, Bool.or_false]

end ReplaySteps

/-- one step of an operand that need not contain a variable, in a node that does -/
theorem IsCtx.single {C : Expr α → Expr α} (hC : IsCtx N C) {c c' : Expr α} {ev : StepEvent}
    (hv : (C c).vars ≠ []) (hc : c.isRed = false) (hs : stepF N c = (c', ev)) :
    ReplaySteps N (C c) [ev] (C c') :=
  .single (hC.isRed c) hv (by rw [hC.step hc hv, hs])

theorem IsCtx.const {C : Expr α → Expr α} (hC : IsCtx N C) (v : α)
    (hv : (C (mkConst v)).vars ≠ []) :
    ReplaySteps N (C (mkConst v)) [.flag] (C (.const .reduced v)) :=
  hC.single hv rfl rfl

theorem stepOK_K1_of_event {e e' : Expr ℝ} {ev : StepEvent} (hs : stepF realNum e = (e', ev))
    (hev : ev ≠ .rule .nrootPow) : StepOK K1FreeAt e := by
  intro r e₀ hr
  unfold K1FreeAt
  split
  · exact absurd ((congrArg Prod.snd hs).symm.trans ((stepF_event_rule e _).mpr ⟨e₀, hr⟩)) hev
  · trivial

theorem ReplaySteps.runOK {e e' : Expr ℝ} {evs : List StepEvent} (h : ReplaySteps realNum e evs e')
    (hred : e'.isRed = true) (hev : StepEvent.rule .nrootPow ∉ evs) :
    ∀ bound, RunOK K1FreeAt bound e := by
  induction h with
  | nil e => intro bound; cases bound with | zero => trivial | succ n => exact Or.inl hred
  | cons hr _ hs _ ih =>
    intro bound
    cases bound with
    | zero => trivial
    | succ n =>
      refine Or.inr ⟨stepOK_K1_of_event hs (fun h => hev (by simp [h])), ?_⟩
      rw [hs]
      exact ih hred (fun h => hev (List.mem_cons_of_mem _ h)) n

mutual
/-- every node carries the `_is_fully_reduced` flag -/
def AllFlagged : Expr ℝ → Prop
  | .const f _ | .var f _ => f.red = true
  | .add f as | .mul f as => f.red = true ∧ AllFlaggedList as
  | .minus f l r | .div f l r | .pow f l r => f.red = true ∧ AllFlagged l ∧ AllFlagged r
  | .neg f u | .recip f u | .npow f u _ | .nroot f u _ | .exp f u _ | .log f u _ | .cos f u
  | .sin f u => f.red = true ∧ AllFlagged u
def AllFlaggedList : List (Expr ℝ) → Prop
  | [] => True
  | e :: es => AllFlagged e ∧ AllFlaggedList es
end

theorem AllFlagged.isRed {e : Expr ℝ} (h : AllFlagged e) : e.isRed = true := by
  cases e <;> simp only [AllFlagged] at h <;> first | exact h | exact h.1

theorem allFlaggedList_mem {es : List (Expr ℝ)} (h : AllFlaggedList es) {t : Expr ℝ} (ht : t ∈ es) :
    AllFlagged t := by
  induction es with
  | nil => cases ht
  | cons e es ih =>
    rcases List.mem_cons.mp ht with rfl | ht
    · exact h.1
    · exact ih h.2 ht

theorem AllFlagged.child {e c : Expr ℝ} (h : AllFlagged e) (hc : c ∈ children e) :
    AllFlagged c := by
  cases e <;> simp only [AllFlagged] at h <;>
    simp only [children, List.mem_cons, List.not_mem_nil, or_false] at hc
  case add | mul => exact allFlaggedList_mem h.2 hc
  case minus | div | pow =>
    rcases hc with rfl | rfl
    · exact h.2.1
    · exact h.2.2
  all_goals
    subst hc
    exact h.2

theorem normOK_of_allFlagged (fuel : Nat) :
    (∀ e, AllFlagged e → NormOK K1FreeAt REDUCTION_STEPS_BOUND fuel e) ∧
    (∀ e, AllFlagged e → NormRedOK K1FreeAt REDUCTION_STEPS_BOUND fuel e) := by
  induction fuel with
  | zero => exact ⟨fun _ _ => trivial, fun _ _ => trivial⟩
  | succ fuel ih =>
    refine ⟨fun e h => ?_, fun e h => normRedOK_succ_of_child AllFlagged.child ih.1 ih.2 h⟩
    simp only [NormOK]
    refine ⟨Or.inl h.isRed, ?_⟩
    rw [(ReplaySteps.nil e).fullyReduce h.isRed (by decide)]
    exact ih.2 e h

/-- a replayed run without `nrootPow` that ends in a completely flagged tree: the whole of
`_normalize` meets the K1 side condition -/
theorem ReplaySteps.normOK {e e' : Expr ℝ} {evs : List StepEvent} (h : ReplaySteps realNum e evs e')
    (hall : AllFlagged e') (hev : StepEvent.rule .nrootPow ∉ evs)
    (hlen : evs.length < REDUCTION_STEPS_BOUND) (fuel : Nat) :
    NormOK K1FreeAt REDUCTION_STEPS_BOUND fuel e := by
  cases fuel with
  | zero => trivial
  | succ fuel =>
    simp only [NormOK]
    refine ⟨h.runOK hall.isRed hev _, ?_⟩
    rw [h.fullyReduce hall.isRed hlen]
    exact (normOK_of_allFlagged fuel).2 e' hall

/-- after a replayed run that ends in a flagged tree, `_normalize` is the normal-form pass on that tree,
which involves no test on numbers and is evaluated -/
theorem ReplaySteps.normalize {e e' r : Expr ℝ} {evs : List StepEvent}
    (h : ReplaySteps realNum e evs e') (hred : e'.isRed = true)
    (hlen : evs.length < REDUCTION_STEPS_BOUND)
    (hnf : normReducedF realNum REDUCTION_STEPS_BOUND (NORMALIZE_FUEL - 1) e' = some (r, false)) :
    normalize realNum e = some (r, false) :=
  h.normalizeF hred hlen hnf

/-- the tests that rules of `Multiply` and `Add` make on the constants of the replayed runs -/
theorem realNum_literals :
    realNum.isZero 0 = true ∧ realNum.isZero 1 = false ∧ realNum.isZero 2 = false ∧
      realNum.isZero (1 / 2) = false ∧ realNum.isZero (-1) = false ∧
      realNum.eq 1 realNum.one = true ∧ realNum.eq 2 realNum.one = false ∧
      realNum.eq (1 / 2) realNum.one = false ∧ realNum.eq (-1) realNum.one = false := by
  norm_num

/-- a step at a `Multiply` or `Add` node with a constant operand: the rules `mulZero`, `mulOnes`,
`addZeros` look at its value; once these tests are rewritten the step is evaluated -/
macro "replay_step_simp" : tactic => `(tactic|
  simp only [stepTop, reducers, firstRule, RuleId.apply, ruleMulZero, ruleMulOnes, ruleAddZeros,
    isConstSuch, asConst, List.any, List.filter, realNum_literals, realNum_zero] <;> rfl)

/-- `Multiply(Constant(1), y)` with both operands flagged: `mulOnes` drops the constant -/
theorem stepF_one_mul_var (y : String) :
    stepF realNum (mkMul [.const .reduced 1, .var .reduced y]) =
      (mkMul [.var .reduced y], .rule .mulOnes) := by
  rw [stepF_mul_top rfl (by simp [vars, varsAux, varsAuxList]) rfl]
  replay_step_simp

end Smooth
