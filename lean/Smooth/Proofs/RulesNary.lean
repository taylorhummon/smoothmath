/-
Proofs/RulesNary — C08 for the 12 rewrite rules of `Add` and `Multiply` (Model/Rules.lean) over the
reals, and for all 46 rules together (`rule_refines`): whenever a rule applies, its output `Refines`
its input (well-formedness kept, no new variable, defined wherever the input is and equal there; only
the domain may grow).  None of the twelve needs a side condition.

Well-formedness and "no new variable" are properties that a node hands down to its operands and that
the nodes the rules build inherit from theirs; `rule_closed` (Proofs/RuleInv) proves them for all
rules at once.  What is left per rule is domain and value: `naryRule_sem` here, `unaryRule_sem` in
Proofs/RulesUnary.
-/
import Smooth.Proofs.RulesUnary
import Smooth.Proofs.SRootMul

namespace Smooth
open Expr

section groups
variable {κ β : Type}

/-- the groups, flattened back to (key, item) pairs -/
def flatGroups (g : List (κ × List β)) : List (κ × β) := g.flatMap fun g => g.2.map (Prod.mk g.1)

/-- `group_by_key` loses nothing and invents nothing: every item ends up in exactly one group, under
its own key (for keys compared by a test that implies equality) -/
theorem groupByKey_perm {eq : κ → κ → Bool} (heq : ∀ a b, eq a b = true → a = b)
    (items : List (κ × β)) : (flatGroups (groupByKey eq items)).Perm items := by
  simpa [flatGroups] using
    groupByKey_flatMap_perm (h := Prod.mk) (fun k k' v hk => by rw [heq k' k hk]) items

@[to_additive]
theorem prod_map_groups {M : Type} [CommMonoid M] (H : κ → β → M) (groups : List (κ × List β)) :
    (groups.map fun g => (g.2.map (H g.1)).prod).prod =
      ((flatGroups groups).map fun kv => H kv.1 kv.2).prod := by
  induction groups with
  | nil => rfl
  | cons g gs ih =>
    rw [List.map_cons, List.prod_cons, ih]
    simp only [flatGroups, List.flatMap_cons, List.map_append, List.prod_append, List.map_map,
      Function.comp_def]

end groups

section consolidate
variable {κ : Type} {sel : Expr ℝ → Option (κ × Expr ℝ)} {eq : κ → κ → Bool}
  {mk : κ → Expr ℝ → Expr ℝ} {build : κ → List (Expr ℝ) → Expr ℝ} {as as' : List (Expr ℝ)}

/-- consolidation keeps the domain and the product (sum) of the values, provided the node built for a
group is defined where the members of the group are and has the product of their values -/
@[to_additive]
theorem prod_consolidate {M : Type} [CommMonoid M] (F : Expr ℝ → M)
    (hF : ∀ f a, F (a.setFlags f) = F a) (heq : ∀ a b, eq a b = true → a = b)
    (hsel : ∀ a k u, sel a = some (k, u) → ∃ f, a = (mk k u).setFlags f)
    (h : consolidate sel eq build as = some as') {ρ : String → ℝ} (hwf : ∀ a ∈ as, WF a)
    (hd : ∀ a ∈ as, Dom ρ a)
    (hbuild : ∀ k us, us ≠ [] → (∀ u ∈ us, WF (mk k u) ∧ Dom ρ (mk k u)) →
      Dom ρ (build k us) ∧ F (build k us) = (us.map fun u => F (mk k u)).prod) :
    (∀ a ∈ as', Dom ρ a) ∧ (as'.map F).prod = (as.map F).prod := by
  obtain ⟨-, -, rfl⟩ := consolidate_eq_some.mp h
  have hperm := groupByKey_perm heq (as.filterMap sel)
  have hg : ∀ g ∈ groupByKey eq (as.filterMap sel), Dom ρ (build g.1 g.2) ∧
      F (build g.1 g.2) = (g.2.map fun u => F (mk g.1 u)).prod := fun g hg =>
    hbuild g.1 g.2 (groupByKey_ne_nil hg) fun u hu => by
      have hmem : (g.1, u) ∈ flatGroups (groupByKey eq (as.filterMap sel)) :=
        List.mem_flatMap.mpr ⟨g, hg, List.mem_map.mpr ⟨u, hu, rfl⟩⟩
      obtain ⟨a, ha, hs⟩ := List.mem_filterMap.mp (hperm.mem_iff.mp hmem)
      obtain ⟨f, rfl⟩ := hsel a g.1 u hs
      exact ⟨(wf_setFlags f _).mp (hwf _ ha), (dom_setFlags ρ f _).mp (hd _ ha)⟩
  refine ⟨List.forall_mem_append.mpr ⟨fun a ha => hd a (List.mem_filter.mp ha).1,
    List.forall_mem_map.mpr fun g hgm => (hg g hgm).1⟩, ?_⟩
  rw [prod_map_partition F sel (fun kv => F (mk kv.1 kv.2)) (fun a kv hs => by
      obtain ⟨f, rfl⟩ := hsel a kv.1 kv.2 hs
      exact hF f _) as,
    List.map_append, List.prod_append, ← (hperm.map _).prod_eq,
    ← prod_map_groups fun k u => F (mk k u), List.map_map]
  exact congrArg _ (congrArg _ (List.map_congr_left fun g hgm => (hg g hgm).2))

end consolidate

theorem prod_map_neg {β : Type} (f : β → ℝ) (l : List β) :
    (l.map fun x => -f x).prod = (-1) ^ l.length * (l.map f).prod := by
  induction l with
  | nil => simp
  | cons a l ih => simp only [List.map_cons, List.prod_cons, List.length_cons, ih, pow_succ]; ring

theorem prod_pow_map {β : Type} (f : β → ℝ) (n : ℕ) (l : List β) :
    (l.map f).prod ^ n = (l.map fun u => f u ^ n).prod := by
  induction l with
  | nil => simp
  | cons u us ih => simp only [List.map_cons, List.prod_cons, mul_pow, ih]

theorem exp_sum_mul {β : Type} (f : β → ℝ) (c : ℝ) (l : List β) :
    Real.exp ((l.map f).sum * c) = (l.map fun u => Real.exp (f u * c)).prod := by
  induction l with
  | nil => simp
  | cons u us ih => simp only [List.map_cons, List.sum_cons, List.prod_cons, add_mul, Real.exp_add, ih]

theorem log_prod_div {β : Type} (f : β → ℝ) (c : ℝ) (l : List β) (h : ∀ u ∈ l, 0 < f u) :
    Real.log (l.map f).prod / c = (l.map fun u => Real.log (f u) / c).sum := by
  induction l with
  | nil => simp
  | cons u us ih =>
    rw [List.forall_mem_cons] at h
    have hP : 0 < (us.map f).prod := List.prod_pos (List.forall_mem_map.mpr h.2)
    simp only [List.map_cons, List.prod_cons, List.sum_cons]
    rw [Real.log_mul h.1.ne' hP.ne', add_div, ih h.2]

theorem realNum_eq_sound (a b : ℝ) (h : realNum.eq a b = true) : a = b := by simpa using h

theorem nat_beq_sound (a b : ℕ) (h : (a == b) = true) : a = b := by simpa using h

/-- C08, n-ary classes.  Every rule of `Add` and `Multiply`, whenever it fires on a well-formed
expression, yields one that is defined wherever the input is and has the same value there. -/
theorem naryRule_sem {r : RuleId} (hn : r.isNary = true) {e e' : Expr ℝ}
    (h : r.apply realNum e = some e') (hwf : WF e) (ρ : String → ℝ) (hd : Dom ρ e) :
    Dom ρ e' ∧ den ρ e' = den ρ e := by
  cases r with
  | addFlatten =>
    -- `Add(…, Add(xs), …) ⇒ Add(…, xs, …)`
    obtain ⟨f, as, as', rfl, hs, rfl⟩ := ruleAddFlatten_eq_some.mp h
    obtain ⟨pre, x, inner, post, rfl, -, hx, rfl⟩ := spliceFirst_eq_some.mp hs
    obtain ⟨g, rfl⟩ := asAdd_some_iff.mp hx
    simp only [Dom, domList_append, DomList, den, denList_append, denList, List.sum_append,
      List.sum_cons] at hd ⊢
    exact ⟨⟨⟨hd.1, hd.2.1⟩, hd.2.2⟩, by ring⟩
  | addZeros =>
    -- `Add(…, 0, …) ⇒ Add(…, …)`
    obtain ⟨f, as, rfl, -, rfl⟩ := ruleAddZeros_eq_some.mp h
    simp only [Dom, domList_iff, den, denList_eq_map] at hd ⊢
    refine ⟨fun a ha => hd a (List.mem_filter.mp ha).1, sum_map_filter_of_zero _ _ _ fun a _ ha => ?_⟩
    obtain ⟨g, v, rfl, hv⟩ := isConstSuch_eq_true.mp (by simpa using ha)
    simpa [den] using hv
  | addLogs =>
    -- `Add(…, log_b x, …, log_b y, …) ⇒ Add(…, log_b (x·y))`, per base
    obtain ⟨f, as, as', rfl, hs, rfl⟩ := ruleAddLogs_eq_some.mp h
    simp only [WF, wfList_iff, Dom, domList_iff, den, denList_eq_map] at hwf hd ⊢
    refine sum_consolidate (mk := fun b u => mkLog u b) (den ρ) (den_setFlags ρ) realNum_eq_sound
      (fun _ _ _ => asLog_some_iff.mp) hs hwf hd fun b us _ hus => ?_
    have hpos : ∀ u ∈ us, 0 < den ρ u := fun u hu => (hus u hu).2.2
    simp only [Dom, domList_iff, den, denList_eq_map]
    exact ⟨⟨fun u hu => (hus u hu).2.1, List.prod_pos (List.forall_mem_map.mpr hpos)⟩,
      log_prod_div (den ρ) _ us hpos⟩
  | addConsts =>
    -- the constants of a sum are replaced by one constant, their sum, appended last
    obtain ⟨f, as, rfl, -, rfl⟩ := ruleAddConsts_eq_some.mp h
    simp only [Dom, domList_iff, den, denList_eq_map, List.forall_mem_append,
      List.forall_mem_singleton, List.map_append, List.sum_append, List.map_cons, List.map_nil,
      List.sum_cons, List.sum_nil, add_zero, mfAdd_real] at hd ⊢
    refine ⟨⟨fun a ha => hd a (List.mem_filter.mp ha).1, trivial⟩, ?_⟩
    rw [sum_map_partition (den ρ) asConst id (fun a v ha => by
      obtain ⟨g, rfl⟩ := asConst_some_iff.mp ha; rfl) as, List.map_id]
  | mulFlatten =>
    -- `Multiply(…, Multiply(xs), …) ⇒ Multiply(…, xs, …)`
    obtain ⟨f, as, as', rfl, hs, rfl⟩ := ruleMulFlatten_eq_some.mp h
    obtain ⟨pre, x, inner, post, rfl, -, hx, rfl⟩ := spliceFirst_eq_some.mp hs
    obtain ⟨g, rfl⟩ := asMul_some_iff.mp hx
    simp only [Dom, domList_append, DomList, den, denList_append, denList, List.prod_append,
      List.prod_cons] at hd ⊢
    exact ⟨⟨⟨hd.1, hd.2.1⟩, hd.2.2⟩, by ring⟩
  | mulZero =>
    -- `Multiply(…, 0, …) ⇒ 0` (the domain may grow: the other factors are no longer evaluated)
    obtain ⟨f, as, rfl, ⟨a, ha, hz⟩, rfl⟩ := ruleMulZero_eq_some.mp h
    obtain ⟨g, v, rfl, hv⟩ := isConstSuch_eq_true.mp hz
    obtain rfl : v = 0 := by simpa using hv
    simp only [den, denList_eq_map, realNum_zero]
    exact ⟨trivial, (List.prod_eq_zero (List.mem_map.mpr ⟨_, ha, rfl⟩)).symm⟩
  | mulOnes =>
    -- `Multiply(…, 1, …) ⇒ Multiply(…, …)`
    obtain ⟨f, as, rfl, -, rfl⟩ := ruleMulOnes_eq_some.mp h
    simp only [Dom, domList_iff, den, denList_eq_map] at hd ⊢
    refine ⟨fun a ha => hd a (List.mem_filter.mp ha).1, prod_map_filter_of_one _ _ _ fun a _ ha => ?_⟩
    obtain ⟨g, v, rfl, hv⟩ := isConstSuch_eq_true.mp (by simpa using ha)
    simpa [den] using hv
  | mulNegs =>
    -- the `Negation` factors of a product lose their sign; an odd count is made up for by a factor −1
    obtain ⟨f, as, rfl, -, rfl⟩ := ruleMulNegs_eq_some.mp h
    have hneg : ∀ {a u : Expr ℝ}, asNeg a = some u → ∃ g, a = Expr.neg g u := asNeg_some_iff.mp
    simp only [Dom, domList_iff] at hd
    have hdom := List.forall_mem_append.mpr (forall_mem_filter_filterMap (sel := asNeg) hd
      fun a u ha hP => by obtain ⟨g, rfl⟩ := hneg ha; exact hP)
    have hval := prod_map_partition (den ρ) asNeg (fun u => -den ρ u) (fun a u ha => by
      obtain ⟨g, rfl⟩ := hneg ha; rfl) as
    rw [prod_map_neg] at hval
    split
    · next heven =>
      simp only [Dom, domList_iff, den, denList_eq_map, List.map_append, List.prod_append]
      exact ⟨hdom, by rw [hval, (Nat.even_iff.mpr heven).neg_one_pow, one_mul]⟩
    · next hodd =>
      simp only [Dom, domList_iff, den, denList_eq_map, List.forall_mem_append,
        List.forall_mem_singleton, List.map_append, List.prod_append, List.map_cons, List.map_nil,
        List.prod_cons, List.prod_nil, realNum_negOne, mul_one]
      refine ⟨⟨List.forall_mem_append.mp hdom, trivial⟩, ?_⟩
      rw [hval, (Nat.odd_iff.mpr (by omega)).neg_one_pow]
      ring
  | mulNPows =>
    -- `Multiply(…, xⁿ, …, yⁿ, …) ⇒ Multiply(…, (x·y)ⁿ)`, per exponent
    obtain ⟨f, as, as', rfl, hs, rfl⟩ := ruleMulNPows_eq_some.mp h
    simp only [WF, wfList_iff, Dom, domList_iff, den, denList_eq_map] at hwf hd ⊢
    refine prod_consolidate (mk := fun n u => mkNPow u n) (den ρ) (den_setFlags ρ) nat_beq_sound
      (fun _ _ _ => asNPow_some_iff.mp) hs hwf hd fun n us _ hus => ?_
    simp only [Dom, domList_iff, den, denList_eq_map]
    exact ⟨fun u hu => (hus u hu).2, prod_pow_map (den ρ) n us⟩
  | mulNRoots =>
    -- `Multiply(…, ⁿ√x, …, ⁿ√y, …) ⇒ Multiply(…, ⁿ√(x·y))`, per root degree
    obtain ⟨f, as, as', rfl, hs, rfl⟩ := ruleMulNRoots_eq_some.mp h
    simp only [WF, wfList_iff, Dom, domList_iff, den, denList_eq_map] at hwf hd ⊢
    refine prod_consolidate (mk := fun n u => mkNRoot u n) (den ρ) (den_setFlags ρ) nat_beq_sound
      (fun _ _ _ => asNRoot_some_iff.mp) hs hwf hd fun n us hne hus => ?_
    obtain ⟨u, hu⟩ := List.exists_mem_of_ne_nil _ hne
    simp only [Dom, domList_iff, den, denList_eq_map]
    refine ⟨⟨fun u hu => (hus u hu).2.1,
      rootOK_list_prod _ (List.forall_mem_map.mpr fun u hu => (hus u hu).2.2)⟩, ?_⟩
    rw [sroot_list_prod (hus u hu).1.1, List.map_map]
    rfl
  | mulExps =>
    -- `Multiply(…, bˣ, …, bʸ, …) ⇒ Multiply(…, b^(x+y))`, per base
    obtain ⟨f, as, as', rfl, hs, rfl⟩ := ruleMulExps_eq_some.mp h
    simp only [WF, wfList_iff, Dom, domList_iff, den, denList_eq_map] at hwf hd ⊢
    refine prod_consolidate (mk := fun b u => mkExp u b) (den ρ) (den_setFlags ρ) realNum_eq_sound
      (fun _ _ _ => asExp_some_iff.mp) hs hwf hd fun b us _ hus => ?_
    simp only [Dom, domList_iff, den, denList_eq_map]
    exact ⟨fun u hu => (hus u hu).2, exp_sum_mul (den ρ) _ us⟩
  | mulConsts =>
    -- the constants of a product are replaced by one constant, their product, appended last
    obtain ⟨f, as, rfl, -, rfl⟩ := ruleMulConsts_eq_some.mp h
    simp only [Dom, domList_iff, den, denList_eq_map, List.forall_mem_append,
      List.forall_mem_singleton, List.map_append, List.prod_append, List.map_cons, List.map_nil,
      List.prod_cons, List.prod_nil, mul_one, mfMultiply_real] at hd ⊢
    refine ⟨⟨fun a ha => hd a (List.mem_filter.mp ha).1, trivial⟩, ?_⟩
    rw [prod_map_partition (den ρ) asConst id (fun a v ha => by
      obtain ⟨g, rfl⟩ := asConst_some_iff.mp ha; rfl) as, List.map_id]
  | _ => cases hn

theorem wf_hered : Hered WF :=
  .of_child fun h => (wfList_iff _).mp ((wf_node _).mp h).2 _

theorem wf_builds : Builds realNum WF where
  const _ := trivial
  add h := (wfList_iff _).mpr h
  mul h := (wfList_iff _).mpr h
  neg h := h
  recip h := h
  pow hl hr := ⟨hl, hr⟩
  cos h := h
  sin h := h
  npow hv hu := ⟨hv.1, hu⟩
  nroot hv hu := ⟨hv.1, hu⟩
  exp hv hu := ⟨hv.1, hu⟩
  log hv hu := ⟨hv.1, hv.2.1, hu⟩
  powNat h _ h2 := ⟨by omega, h.1⟩
  powConstBase h hp _ := ⟨by simpa using hp, h.2⟩
  npowRoot h _ _ :=
    have hg := Nat.gcd_pos_of_pos_left _ h.2.1
    ⟨Nat.div_pos (Nat.le_of_dvd h.1 (Nat.gcd_dvd_right _ _)) hg,
      Nat.div_pos (Nat.le_of_dvd h.2.1 (Nat.gcd_dvd_left _ _)) hg, h.2.2⟩
  npowPow h := ⟨Nat.mul_pos h.1 h.2.1, h.2.2⟩
  nrootRoot h := ⟨Nat.mul_pos h.1 h.2.1, h.2.2⟩

theorem supp_hered (p : Point ℝ) : Hered (Supp p) :=
  .of_child fun h => (suppList_iff p _).mp ((supp_node p _).mp h).2 _

theorem supp_builds (p : Point ℝ) : Builds realNum (Supp p) where
  const _ := trivial
  add h := (suppList_iff p _).mpr h
  mul h := (suppList_iff p _).mpr h
  neg h := h
  recip h := h
  pow hl hr := ⟨hl, hr⟩
  cos h := h
  sin h := h
  npow _ hu := hu
  nroot _ hu := hu
  exp _ hu := hu
  log _ hu := hu
  powNat h _ _ := h.1
  powConstBase h _ _ := h.2
  npowRoot h _ _ := h
  npowPow h := h
  nrootRoot h := h

theorem refines_of_sem {r : RuleId} {e e' : Expr ℝ} (h : r.apply realNum e = some e')
    (hsem : WF e → ∀ ρ, Dom ρ e → Dom ρ e' ∧ den ρ e' = den ρ e) : Refines e e' :=
  ⟨rule_closed wf_hered wf_builds h, fun p => rule_closed (supp_hered p) (supp_builds p) h, hsem⟩

/-- C08, every individual rewrite rule.  Each of the 46 rules, whenever it fires, refines its
input — except the even/even instance of `NthRoot(NthPower(u, m), n)` (K1), which is exactly what
`K1FreeAt` excludes. -/
theorem rule_refines (r : RuleId) (e e' : Expr ℝ) (h : r.apply realNum e = some e')
    (hk : K1FreeAt r e) : Refines e e' :=
  refines_of_sem h fun hwf ρ hd => by
    cases hn : r.isNary
    · exact unaryRule_sem hn h hk hwf ρ hd
    · exact naryRule_sem hn h hwf ρ hd

theorem nary_rule_refines {r : RuleId} (hr : r.isNary = true) {e e' : Expr ℝ}
    (h : r.apply realNum e = some e') : Refines e e' :=
  refines_of_sem h (naryRule_sem hr h)

end Smooth
