/-
Proofs/WFFuel — the outcome `.fuel` of the object layer is an artefact of the model's fuel-indexed
`normalizeF`/`normReducedF`, not a behaviour of the library: with the fuel `NORMALIZE_FUEL` the model
actually uses, it does not occur for expressions of any realistic depth.

How the fuel is consumed.  `normalizeF (f+1) e = normReducedF f (fullyReduce e)`; `normReducedF (f+1)`
descends one level: into the operands with `normReducedF f`, and — for `Add`/`Multiply` — into every
term (or the operand of a `Negation`/`Reciprocal` term) with `normalizeF f`, which runs `_fully_reduce`
again.  After a `_fully_reduce` that ended without the warning, every node of the result is flagged
(`Settled.all_of_isRed`, property C11), so every nested `_fully_reduce` returns its argument at once and
each level of the tree costs at most two units of fuel (`wfd_normReducedF_some`).

The depth of the reduct is bounded by the depth of the input plus the number of steps, because every
one of the 46 rules, constant folding and the flag steps raise the depth by at most one.  Together
(`wfd_normalizeF_some`): with honest flags (`Settled`, e.g. no flag set) and no warning,
`2 · (depth e + bound) + 1 ≤ fuel` suffices for `normalizeF … bound fuel e` to return; with
`bound = 1000`, `fuel = NORMALIZE_FUEL = 100000` that is depth ≤ 48999.
`symFwd` keeps `Settled` (`wfd_settled_symFwd`), so this applies to `_retrieve_synthetic_partial`.

What is not proved: the case in which `_fully_reduce` gives up with the warning (budget exhausted).
Then the nested `_fully_reduce` calls of the normal-form pass do real work again, each with a fresh
budget, and the only bound on the total is the (non-explicit, lexicographic) termination measure of
Proofs/Measure.  Generic in the number record `N`.
-/
import Smooth.Proofs.Settled
import Smooth.Proofs.RuleInv

namespace Smooth
open Expr
variable {α : Type}

mutual
/-- height of the tree (a leaf has depth 1) -/
def wfdDepth : Expr α → Nat
  | .const _ _ | .var _ _ => 1
  | .add _ as | .mul _ as => 1 + wfdDepthList as
  | .minus _ l r | .div _ l r | .pow _ l r => 1 + max (wfdDepth l) (wfdDepth r)
  | .neg _ u | .recip _ u | .npow _ u _ | .nroot _ u _ | .exp _ u _ | .log _ u _ | .cos _ u
  | .sin _ u => 1 + wfdDepth u
def wfdDepthList : List (Expr α) → Nat
  | [] => 0
  | e :: es => max (wfdDepth e) (wfdDepthList es)
end

theorem wfd_depthList_le_iff (as : List (Expr α)) (d : Nat) :
    wfdDepthList as ≤ d ↔ ∀ a ∈ as, wfdDepth a ≤ d := by
  induction as with
  | nil => simp [wfdDepthList]
  | cons e es ih => simp only [wfdDepthList, List.forall_mem_cons, ← ih, Nat.max_le]

theorem wfd_depth_mem {as : List (Expr α)} {a : Expr α} (h : a ∈ as) :
    wfdDepth a ≤ wfdDepthList as :=
  (wfd_depthList_le_iff as _).mp (Nat.le_refl _) a h

theorem wfd_depth_eq (e : Expr α) : wfdDepth e = 1 + wfdDepthList (children e) := by
  cases e <;> simp only [wfdDepth, wfdDepthList, children, Nat.max_zero, Nat.add_zero]

theorem wfd_depth_pos (e : Expr α) : 1 ≤ wfdDepth e := by
  rw [wfd_depth_eq]; omega

@[simp] theorem wfd_depth_setFlags (g : Flags) (e : Expr α) : wfdDepth (e.setFlags g) = wfdDepth e := by
  rw [wfd_depth_eq, children_setFlags, ← wfd_depth_eq]

@[simp] theorem wfd_depth_markRed (e : Expr α) : wfdDepth e.markRed = wfdDepth e :=
  wfd_depth_setFlags _ e

@[simp] theorem wfd_depth_markFailed (e : Expr α) : wfdDepth e.markFailed = wfdDepth e :=
  wfd_depth_setFlags _ e

theorem wfd_depth_child {e c : Expr α} (h : c ∈ children e) : wfdDepth c + 1 ≤ wfdDepth e := by
  have := wfd_depth_mem h
  rw [wfd_depth_eq e]; omega

theorem wfd_depth_rebuildNode (e : Expr α) {cs : List (Expr α)}
    (h : cs.length = (children e).length) : wfdDepth (rebuildNode e cs) = 1 + wfdDepthList cs := by
  rw [wfd_depth_eq, children_rebuildNode e cs h]

/-- every node of `e` carries the `_is_fully_reduced` flag -/
def wfdAllRed (e : Expr α) : Prop := ∀ s, Sub s e → s.isRed = true

theorem wfdAllRed_iff {e : Expr α} :
    wfdAllRed e ↔ e.isRed = true ∧ ∀ c ∈ children e, wfdAllRed c :=
  everywhere_iff

theorem wfdAllRed.root {e : Expr α} (h : wfdAllRed e) : e.isRed = true := h e (Sub.refl e)

theorem wfdAllRed.child {e c : Expr α} (h : wfdAllRed e) (hc : c ∈ children e) : wfdAllRed c :=
  Everywhere.child h hc

theorem wfdAllRed.markRed {e : Expr α} (h : wfdAllRed e) : wfdAllRed e.markRed := by
  refine wfdAllRed_iff.mpr ⟨by cases e <;> rfl, ?_⟩
  rw [Expr.markRed, children_setFlags]
  exact fun c hc => h.child hc

theorem wfd_allRed_of_settled {N : Num α} {e : Expr α} (hs : Settled N e) (hr : e.isRed = true) :
    wfdAllRed e :=
  fun s hsub => (hs.all_of_isRed hr s hsub).1

/-- `_fully_reduce` on a flagged root does nothing (budget ≥ 1) or only sets the root flag again
(budget 0) -/
theorem wfd_fullyReduceWith_red (N : Num α) (bound : Nat) {e : Expr α} (h : e.isRed = true) :
    (fullyReduceWith N bound e).expr = e ∨ (fullyReduceWith N bound e).expr = e.markRed := by
  cases bound with
  | zero => exact Or.inr rfl
  | succ b => left; simp [fullyReduceWith, fullyReduceLoop, h]

theorem wfd_fullyReduceWith_allRed (N : Num α) (bound : Nat) {e : Expr α} (h : wfdAllRed e) :
    wfdAllRed (fullyReduceWith N bound e).expr ∧
      wfdDepth (fullyReduceWith N bound e).expr = wfdDepth e := by
  rcases wfd_fullyReduceWith_red N bound h.root with h1 | h1 <;> rw [h1]
  · exact ⟨h, rfl⟩
  · exact ⟨h.markRed, wfd_depth_markRed e⟩

theorem wfd_fuel_aux (N : Num α) (bound fuel : Nat) :
    (∀ e : Expr α, wfdAllRed e → 2 * wfdDepth e + 1 ≤ fuel →
      ∃ r, normalizeF N bound fuel e = some r) ∧
    (∀ e : Expr α, wfdAllRed e → 2 * wfdDepth e ≤ fuel →
      ∃ r, normReducedF N bound fuel e = some r) := by
  induction fuel with
  | zero => exact ⟨fun e _ h => by omega, fun e _ h => by have := wfd_depth_pos e; omega⟩
  | succ fuel ih =>
    refine ⟨fun e hr hd => ?_, fun e hr hd => ?_⟩
    · -- `_fully_reduce` returns the tree as it is, up to the root flag
      obtain ⟨hr', hd'⟩ := wfd_fullyReduceWith_allRed N bound hr
      obtain ⟨r, h⟩ := ih.2 _ hr' (by omega)
      exact ⟨(r.1, r.2 || (fullyReduceWith N bound e).warned), by simp [normalizeF, h]⟩
    · cases hn : isNaryNode e
      · obtain ⟨cs, hcs⟩ := exists_mapM?_eq_some (f := normReducedF N bound fuel) fun c hc =>
          ih.2 c (hr.child hc) (by have := wfd_depth_child hc; omega)
        exact ⟨_, (normReducedF_node N bound fuel e hn).mpr ⟨cs, hcs, rfl, rfl⟩⟩
      · -- a term, or the operand of a negated (inverted) term, is normalised in full: two levels
        -- down it costs the one unit more that `normalizeF` needs
        have terms : ∀ (sel : Expr α → Option (Expr α)) (as : List (Expr α)),
            (∀ a ∈ as, a ∈ children e) → (∀ a u, sel a = some u → u ∈ children a) →
            (∃ t1, mapM? (normalizeF N bound fuel) (as.filter fun t => (sel t).isNone) = some t1) ∧
              ∃ t2, mapM? (normalizeF N bound fuel) (as.filterMap sel) = some t2 := by
          intro sel as has hsel
          obtain ⟨h1, h2⟩ := forall_mem_filter_filterMap
            (P := fun a => wfdAllRed a ∧ wfdDepth a + 1 ≤ wfdDepth e)
            (Q := fun u => wfdAllRed u ∧ wfdDepth u + 2 ≤ wfdDepth e)
            (fun a ha => ⟨hr.child (has a ha), wfd_depth_child (has a ha)⟩)
            fun a u hau ha => ⟨ha.1.child (hsel a u hau), by
              have := wfd_depth_child (hsel a u hau); omega⟩
          exact ⟨exists_mapM?_eq_some fun t ht => ih.1 t (h1 t ht).1 (by have := (h1 t ht).2; omega),
            exists_mapM?_eq_some fun u hu => ih.1 u (h2 u hu).1 (by have := (h2 u hu).2; omega)⟩
        cases e <;> simp only [isNaryNode, reduceCtorEq] at hn
        case add f as =>
          obtain ⟨⟨t1, h1⟩, t2, h2⟩ := terms asNeg as (fun _ ha => ha) fun _ _ => mem_children_of_asNeg
          exact ⟨_, by rw [normReducedF_add, h1, h2]⟩
        case mul f as =>
          obtain ⟨⟨t1, h1⟩, t2, h2⟩ := terms asRecip as (fun _ ha => ha) fun _ _ => mem_children_of_asRecip
          exact ⟨_, by rw [normReducedF_mul, h1, h2]⟩

theorem wfd_normReducedF_some (N : Num α) (bound fuel : Nat) {e : Expr α} (hr : wfdAllRed e)
    (hd : 2 * wfdDepth e ≤ fuel) : ∃ r, normReducedF N bound fuel e = some r :=
  (wfd_fuel_aux N bound fuel).2 e hr hd

theorem wfd_depthList_append (as bs : List (Expr α)) :
    wfdDepthList (as ++ bs) = max (wfdDepthList as) (wfdDepthList bs) := by
  induction as with
  | nil => exact (Nat.zero_max _).symm
  | cons a as ih => simp only [List.cons_append, wfdDepthList, ih, Nat.max_assoc]

theorem wfd_depthList_filter (p : Expr α → Bool) (as : List (Expr α)) :
    wfdDepthList (as.filter p) ≤ wfdDepthList as :=
  (wfd_depthList_le_iff _ _).mpr fun _ ha => wfd_depth_mem (List.mem_filter.mp ha).1

theorem wfd_depthList_map_succ (mk : Expr α → Expr α) (hmk : ∀ a, wfdDepth (mk a) = 1 + wfdDepth a)
    (as : List (Expr α)) : wfdDepthList (as.map mk) ≤ 1 + wfdDepthList as := by
  refine (wfd_depthList_le_iff _ _).mpr fun b hb => ?_
  obtain ⟨a, ha, rfl⟩ := List.mem_map.mp hb
  have := wfd_depth_mem ha
  rw [hmk]
  omega

/-- the two flattening rules: the spliced-in operands were one level further down -/
theorem wfd_spliceFirst_depth {sel : Expr α → Option (List (Expr α))} {as as' : List (Expr α)}
    (hsel : ∀ a inner, sel a = some inner → wfdDepthList inner ≤ wfdDepth a)
    (h : spliceFirst sel as = some as') : wfdDepthList as' ≤ wfdDepthList as :=
  (wfd_depthList_le_iff _ _).mpr <|
    spliceFirst_forall (P := fun a => wfdDepth a ≤ wfdDepthList as)
      (fun a inner ha hP _ hx => Nat.le_trans (wfd_depth_mem hx) (Nat.le_trans (hsel a inner ha) hP))
      h fun _ ha => wfd_depth_mem ha

/-- the four consolidation rules: the rebuilt groups are one level deeper than the members they
replace -/
theorem wfd_consolidate_depth {κ : Type} {sel : Expr α → Option (κ × Expr α)} {eq : κ → κ → Bool}
    {build : κ → List (Expr α) → Expr α} {as as' : List (Expr α)}
    (hsel : ∀ a k u, sel a = some (k, u) → wfdDepth u + 1 ≤ wfdDepth a)
    (hbuild : ∀ k us, wfdDepth (build k us) = 2 + wfdDepthList us)
    (h : consolidate sel eq build as = some as') : wfdDepthList as' ≤ wfdDepthList as + 1 := by
  refine (wfd_depthList_le_iff _ _).mpr fun a ha => ?_
  rcases mem_of_consolidate h ha with ⟨ha, -⟩ | ⟨k, us, rfl, -, ⟨b, hb, -⟩, hus⟩
  · exact Nat.le_succ_of_le (wfd_depth_mem ha)
  · have hb1 := wfd_depth_mem hb
    have hb2 := wfd_depth_pos b
    have : wfdDepthList us ≤ wfdDepthList as - 1 := (wfd_depthList_le_iff _ _).mpr fun u hu => by
      obtain ⟨b', hb', k', hs', -⟩ := hus u hu
      have := hsel b' k' u hs'
      have := wfd_depth_mem hb'
      omega
    rw [hbuild]; omega

theorem wfd_rule_depth (N : Num α) (r : RuleId) {e e' : Expr α} (h : r.apply N e = some e') :
    wfdDepth e' ≤ wfdDepth e + 1 := by
  cases r
  case addFlatten =>
    obtain ⟨f, as, as', rfl, hs, rfl⟩ := ruleAddFlatten_eq_some.mp h
    have := wfd_spliceFirst_depth (fun a inner ha => by
      obtain ⟨g, rfl⟩ := asAdd_some_iff.mp ha; simp only [wfdDepth]; omega) hs
    simp only [wfdDepth]
    omega
  case mulFlatten =>
    obtain ⟨f, as, as', rfl, hs, rfl⟩ := ruleMulFlatten_eq_some.mp h
    have := wfd_spliceFirst_depth (fun a inner ha => by
      obtain ⟨g, rfl⟩ := asMul_some_iff.mp ha; simp only [wfdDepth]; omega) hs
    simp only [wfdDepth]
    omega
  case addZeros =>
    obtain ⟨f, as, rfl, -, rfl⟩ := ruleAddZeros_eq_some.mp h
    have := wfd_depthList_filter (fun a => !isConstSuch N.isZero a) as
    simp only [wfdDepth]
    omega
  case mulOnes =>
    obtain ⟨f, as, rfl, -, rfl⟩ := ruleMulOnes_eq_some.mp h
    have := wfd_depthList_filter (fun a => !isConstSuch (fun v => N.eq v N.one) a) as
    simp only [wfdDepth]
    omega
  case addConsts =>
    obtain ⟨f, as, rfl, -, rfl⟩ := ruleAddConsts_eq_some.mp h
    have := wfd_depthList_filter (fun a => (asConst a).isNone) as
    simp only [wfdDepth, wfd_depthList_append, wfdDepthList, Nat.max_zero]
    omega
  case mulConsts =>
    obtain ⟨f, as, rfl, -, rfl⟩ := ruleMulConsts_eq_some.mp h
    have := wfd_depthList_filter (fun a => (asConst a).isNone) as
    simp only [wfdDepth, wfd_depthList_append, wfdDepthList, Nat.max_zero]
    omega
  case mulNegs =>
    obtain ⟨f, as, rfl, -, rfl⟩ := ruleMulNegs_eq_some.mp h
    have h1 := wfd_depthList_filter (fun a => (asNeg a).isNone) as
    have h2 : wfdDepthList (as.filterMap asNeg) ≤ wfdDepthList as :=
      (wfd_depthList_le_iff _ _).mpr fun u hu => by
        obtain ⟨a, ha, hau⟩ := List.mem_filterMap.mp hu
        obtain ⟨g, rfl⟩ := asNeg_some_iff.mp hau
        have := wfd_depth_mem ha
        simp only [wfdDepth] at this; omega
    split <;> simp only [wfdDepth, wfd_depthList_append, wfdDepthList, Nat.max_zero] <;> omega
  case addLogs =>
    obtain ⟨f, as, as', rfl, hs, rfl⟩ := ruleAddLogs_eq_some.mp h
    have := wfd_consolidate_depth (fun a b u ha => by
      obtain ⟨g, rfl⟩ := asLog_some_iff.mp ha; simp only [wfdDepth]; omega)
      (fun b us => by simp only [wfdDepth]; omega) hs
    simp only [wfdDepth]
    omega
  case mulNPows =>
    obtain ⟨f, as, as', rfl, hs, rfl⟩ := ruleMulNPows_eq_some.mp h
    have := wfd_consolidate_depth (fun a n u ha => by
      obtain ⟨g, rfl⟩ := asNPow_some_iff.mp ha; simp only [wfdDepth]; omega)
      (fun n us => by simp only [wfdDepth]; omega) hs
    simp only [wfdDepth]
    omega
  case mulNRoots =>
    obtain ⟨f, as, as', rfl, hs, rfl⟩ := ruleMulNRoots_eq_some.mp h
    have := wfd_consolidate_depth (fun a n u ha => by
      obtain ⟨g, rfl⟩ := asNRoot_some_iff.mp ha; simp only [wfdDepth]; omega)
      (fun n us => by simp only [wfdDepth]; omega) hs
    simp only [wfdDepth]
    omega
  case mulExps =>
    obtain ⟨f, as, as', rfl, hs, rfl⟩ := ruleMulExps_eq_some.mp h
    have := wfd_consolidate_depth (fun a b u ha => by
      obtain ⟨g, rfl⟩ := asExp_some_iff.mp ha; simp only [wfdDepth]; omega)
      (fun b us => by simp only [wfdDepth]; omega) hs
    simp only [wfdDepth]
    omega
  case negSum =>
    obtain ⟨f, g, as, rfl, rfl⟩ := ruleNegSum_eq_some.mp h
    have := wfd_depthList_map_succ mkNeg (fun a => by simp only [wfdDepth]) as
    simp only [wfdDepth]
    omega
  case recipProd =>
    obtain ⟨f, g, as, rfl, rfl⟩ := ruleRecipProd_eq_some.mp h
    have := wfd_depthList_map_succ mkRecip (fun a => by simp only [wfdDepth]) as
    simp only [wfdDepth]
    omega
  case mulZero =>
    obtain ⟨f, as, rfl, -, rfl⟩ := ruleMulZero_eq_some.mp h
    simp only [wfdDepth]
    omega
  case minusToSum =>
    obtain ⟨f, l, r, rfl, rfl⟩ := ruleMinusToSum_eq_some.mp h
    simp only [wfdDepth, wfdDepthList, Nat.max_zero]
    omega
  case negNeg =>
    obtain ⟨f, g, rfl⟩ := ruleNegNeg_eq_some.mp h
    simp only [wfdDepth]
    omega
  case divToMul =>
    obtain ⟨f, l, r, rfl, rfl⟩ := ruleDivToMul_eq_some.mp h
    simp only [wfdDepth, wfdDepthList, Nat.max_zero]
    omega
  case recipRecip =>
    obtain ⟨f, g, rfl⟩ := ruleRecipRecip_eq_some.mp h
    simp only [wfdDepth]
    omega
  case recipNeg =>
    obtain ⟨f, g, u, rfl, rfl⟩ := ruleRecipNeg_eq_some.mp h
    simp only [wfdDepth]
    omega
  case powOne =>
    obtain ⟨f, r, rfl, -⟩ := rulePowOne_eq_some.mp h
    simp only [wfdDepth]
    omega
  case powZero =>
    obtain ⟨f, l, r, rfl, -, rfl⟩ := rulePowZero_eq_some.mp h
    simp only [wfdDepth]
    omega
  case onePow =>
    obtain ⟨f, l, r, rfl, -, rfl⟩ := ruleOnePow_eq_some.mp h
    simp only [wfdDepth]
    omega
  case powNat =>
    obtain ⟨f, l, g, v, k, rfl, -, -, rfl⟩ := rulePowNat_eq_some.mp h
    simp only [wfdDepth]
    omega
  case powNegOne =>
    obtain ⟨f, l, r, rfl, -, rfl⟩ := rulePowNegOne_eq_some.mp h
    simp only [wfdDepth]
    omega
  case powConstBase =>
    obtain ⟨f, g, v, r, rfl, -, -, rfl⟩ := rulePowConstBase_eq_some.mp h
    simp only [wfdDepth]
    omega
  case powPow =>
    obtain ⟨f, g, u, v, w, rfl, rfl⟩ := rulePowPow_eq_some.mp h
    simp only [wfdDepth, wfdDepthList, Nat.max_zero]
    omega
  case powNegExp =>
    obtain ⟨f, l, g, v, rfl, rfl⟩ := rulePowNegExp_eq_some.mp h
    simp only [wfdDepth]
    omega
  case powRecipBase =>
    obtain ⟨f, g, u, r, rfl, rfl⟩ := rulePowRecipBase_eq_some.mp h
    simp only [wfdDepth]
    omega
  case npowOne =>
    obtain ⟨f, rfl⟩ := ruleNPowOne_eq_some.mp h
    simp only [wfdDepth]
    omega
  case npowRoot =>
    obtain ⟨f, g, u, m, n, rfl, ⟨-, rfl⟩ | ⟨-, -, rfl⟩⟩ := ruleNPowRoot_eq_some.mp h <;>
      simp only [wfdDepth] <;> omega
  case npowPow =>
    obtain ⟨f, g, u, m, n, rfl, rfl⟩ := ruleNPowPow_eq_some.mp h
    simp only [wfdDepth]
    omega
  case npowNeg =>
    obtain ⟨f, g, u, n, rfl, rfl⟩ := ruleNPowNeg_eq_some.mp h
    split <;> simp only [wfdDepth] <;> omega
  case npowRecip =>
    obtain ⟨f, g, u, n, rfl, rfl⟩ := ruleNPowRecip_eq_some.mp h
    simp only [wfdDepth]
    omega
  case npowExp =>
    obtain ⟨f, g, u, b, n, rfl, rfl⟩ := ruleNPowExp_eq_some.mp h
    simp only [wfdDepth, wfdDepthList, Nat.max_zero]
    omega
  case nrootOne =>
    obtain ⟨f, rfl⟩ := ruleNRootOne_eq_some.mp h
    simp only [wfdDepth]
    omega
  case nrootPow =>
    obtain ⟨f, g, u, m, n, rfl, rfl⟩ := ruleNRootPow_eq_some.mp h
    simp only [wfdDepth]
    omega
  case nrootRoot =>
    obtain ⟨f, g, u, m, n, rfl, rfl⟩ := ruleNRootRoot_eq_some.mp h
    simp only [wfdDepth]
    omega
  case nrootNeg =>
    obtain ⟨f, g, u, n, rfl, -, rfl⟩ := ruleNRootNeg_eq_some.mp h
    simp only [wfdDepth]
    omega
  case nrootRecip =>
    obtain ⟨f, g, u, n, rfl, rfl⟩ := ruleNRootRecip_eq_some.mp h
    simp only [wfdDepth]
    omega
  case expLog =>
    obtain ⟨f, g, b, b', rfl, -⟩ := ruleExpLog_eq_some.mp h
    simp only [wfdDepth]
    omega
  case expNeg =>
    obtain ⟨f, g, u, b, rfl, rfl⟩ := ruleExpNeg_eq_some.mp h
    simp only [wfdDepth]
    omega
  case logExp =>
    obtain ⟨f, g, b, b', rfl, -⟩ := ruleLogExp_eq_some.mp h
    simp only [wfdDepth]
    omega
  case logRecip =>
    obtain ⟨f, g, u, b, rfl, rfl⟩ := ruleLogRecip_eq_some.mp h
    simp only [wfdDepth]
    omega
  case logNPow =>
    obtain ⟨f, g, u, n, b, rfl, -, rfl⟩ := ruleLogNPow_eq_some.mp h
    simp only [wfdDepth, wfdDepthList, Nat.max_zero]
    omega
  case cosNeg =>
    obtain ⟨f, g, u, rfl, rfl⟩ := ruleCosNeg_eq_some.mp h
    simp only [wfdDepth]
    omega
  case sinNeg =>
    obtain ⟨f, g, u, rfl, rfl⟩ := ruleSinNeg_eq_some.mp h
    simp only [wfdDepth]
    omega

theorem wfd_stepF_depth (N : Num α) (e : Expr α) : wfdDepth (stepF N e).1 ≤ wfdDepth e + 1 := by
  have hs := stepF_shape N e
  generalize (stepF N e).1 = e' at hs
  generalize (stepF N e).2 = ev at hs
  induction hs with
  | already => exact Nat.le_succ _
  | @fold e _ _ _ =>
    have := wfd_depth_pos e
    simp only [wfdDepth]; omega
  | @child e c pre post c' _ _ _ hch _ _ _ ih =>
    rw [wfd_depth_rebuildNode e (by simp [hch]), wfd_depth_eq e, hch]
    simp only [wfd_depthList_append, wfdDepthList]
    omega
  | rule _ _ _ hself hfr =>
    have := wfd_rule_depth N _ (firstRule_eq_some hfr).1
    rcases hself with rfl | ⟨rfl, _⟩
    · exact this
    · rwa [wfd_depth_markFailed] at this
  | flag _ _ _ hself _ =>
    rcases hself with rfl | ⟨rfl, _⟩ <;> simp

theorem wfd_stepFirstUnreduced_depth (N : Num α) :
    ∀ (as : List (Expr α)) (p : List (Expr α) × StepEvent), stepFirstUnreduced N as = some p →
      wfdDepthList p.1 ≤ wfdDepthList as + 1 := by
  intro as p h
  obtain ⟨pre, c, post, rfl, -, -, rfl⟩ := stepFirstUnreduced_eq_some.mp h
  have := wfd_stepF_depth N c
  simp only [wfd_depthList_append, wfdDepthList]
  omega

theorem wfd_fullyReduceLoop_depth (N : Num α) :
    ∀ (fuel : Nat) (e : Expr α) (k : Nat) (tr : List StepEvent),
      wfdDepth (fullyReduceLoop N fuel e k tr).expr ≤ wfdDepth e + fuel
  | 0, e, k, tr => by simp [fullyReduceLoop]
  | fuel + 1, e, k, tr => by
    unfold fullyReduceLoop
    split
    · exact Nat.le_add_right _ _
    · have h1 := wfd_fullyReduceLoop_depth N fuel (stepF N e).1 (k + 1) ((stepF N e).2 :: tr)
      have h2 := wfd_stepF_depth N e
      simp only at h1 ⊢
      omega

theorem wfd_fullyReduceWith_depth (N : Num α) (bound : Nat) (e : Expr α) :
    wfdDepth (fullyReduceWith N bound e).expr ≤ wfdDepth e + bound :=
  wfd_fullyReduceLoop_depth N bound e 0 []

/-- with honest flags and no warning, `_normalize` needs two units of fuel per level of the reduct,
and one -/
theorem wfd_normalizeF_some' (N : Num α) (bound fuel : Nat) {e : Expr α} (hs : Settled N e)
    (hw : (fullyReduceWith N bound e).warned = false)
    (hd : 2 * wfdDepth (fullyReduceWith N bound e).expr + 1 ≤ fuel) :
    ∃ r, normalizeF N bound fuel e = some r := by
  obtain ⟨f, rfl⟩ : ∃ f, fuel = f + 1 := ⟨fuel - 1, by omega⟩
  -- without the warning, the loop ended on a flagged root
  obtain ⟨n, hn, hroot⟩ := fullyReduceLoop_eq_iterate N bound e 0 [] hw
  have hred : wfdAllRed (fullyReduceWith N bound e).expr :=
    wfd_allRed_of_settled (fullyReduceLoop_settled N bound e 0 [] hs hw) (hn ▸ hroot)
  obtain ⟨r, hr⟩ := wfd_normReducedF_some N bound f hred (by omega)
  exact ⟨(r.1, r.2 || (fullyReduceWith N bound e).warned), by simp [normalizeF, hr]⟩

theorem wfd_normalizeF_some (N : Num α) (bound fuel : Nat) {e : Expr α} (hs : Settled N e)
    (hw : (fullyReduceWith N bound e).warned = false)
    (hd : 2 * (wfdDepth e + bound) + 1 ≤ fuel) : ∃ r, normalizeF N bound fuel e = some r :=
  wfd_normalizeF_some' N bound fuel hs hw (by
    have := wfd_fullyReduceWith_depth N bound e
    omega)

/-- with the constants of the implementation (`REDUCTION_STEPS_BOUND = 1000`,
`NORMALIZE_FUEL = 100000`): depth at most 48999 -/
theorem wfd_normalize_some (N : Num α) {e : Expr α} (hs : Settled N e)
    (hw : (fullyReduce N e).warned = false) (hd : wfdDepth e ≤ 48999) :
    ∃ r, normalize N e = some r :=
  wfd_normalizeF_some N REDUCTION_STEPS_BOUND NORMALIZE_FUEL hs hw (by
    simp only [REDUCTION_STEPS_BOUND, NORMALIZE_FUEL]; omega)

end Smooth
