/-
Proofs/Refines — the relation every rewrite must establish between its input `e` and its output `e'`
(C08): well-formedness is kept, no new variable is needed, and wherever `e` is defined `e'` is defined
and has the same value (the domain may only grow).
-/
import Smooth.Proofs.Eval

namespace Smooth
open Expr

structure Refines (e e' : Expr ℝ) : Prop where
  wf : WF e → WF e'
  supp : ∀ p : Point ℝ, Supp p e → Supp p e'
  sem : WF e → ∀ ρ : String → ℝ, Dom ρ e → Dom ρ e' ∧ den ρ e' = den ρ e

theorem Refines.refl (e : Expr ℝ) : Refines e e :=
  ⟨id, fun _ h => h, fun _ _ h => ⟨h, rfl⟩⟩

theorem Refines.trans {a b c : Expr ℝ} (h1 : Refines a b) (h2 : Refines b c) : Refines a c :=
  ⟨fun h => h2.wf (h1.wf h), fun p h => h2.supp p (h1.supp p h), fun hwf ρ hd => by
    obtain ⟨hd1, e1⟩ := h1.sem hwf ρ hd
    obtain ⟨hd2, e2⟩ := h2.sem (h1.wf hwf) ρ hd1
    exact ⟨hd2, e2.trans e1⟩⟩

theorem Refines.eval {e e' : Expr ℝ} (h : Refines e e') (hwf : WF e) (p : Point ℝ) (v : ℝ)
    (hv : evalG realNum p e = .ok v) : evalG realNum p e' = .ok v := by
  obtain ⟨hs, hd, rfl⟩ := (evalR_good p e hwf).ok_iff.mp hv
  obtain ⟨hd', he⟩ := h.sem hwf (valOf p) hd
  exact (evalR_good p e' (h.wf hwf)).ok_iff.mpr ⟨h.supp p hs, hd', he.symm⟩

/-- `Refines` from its parts when the two denotations agree everywhere, as they do for expressions
that differ in flags and object ids only -/
theorem Refines.of_eq_upto_flags {e e' : Expr ℝ}
    (hwf : WF e → WF e') (hsupp : ∀ p : Point ℝ, Supp p e → Supp p e')
    (hdom : ∀ ρ, Dom ρ e → Dom ρ e') (hden : ∀ ρ, den ρ e' = den ρ e) : Refines e e' :=
  ⟨hwf, hsupp, fun _ ρ hd => ⟨hdom ρ hd, hden ρ⟩⟩

end Smooth
