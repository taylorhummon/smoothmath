/-
Proofs/NodeView — an expression seen one level deep: its class, its children, and what it carries
besides them (a name or an `n`, a number).  `beq_iff` says once what `==` does in these terms; after
that every law of `==` is an induction over `Expr.ind_children` with a single case.  Statements about
two expressions that are trivial when the classes differ go by `Expr.ind₂`.  Mathlib-free.
-/
import Smooth.Proofs.Shape
import Smooth.Model.Surface

namespace Smooth
variable {α : Type}
open Expr

/-- The constructor of a node (the Python class). -/
inductive Ctor where
  | const | var | add | minus | neg | mul | div | recip | pow | npow | nroot | exp | log | cos | sin
  deriving DecidableEq, Repr

def Expr.ctor : Expr α → Ctor
  | .const .. => .const | .var .. => .var | .add .. => .add | .minus .. => .minus | .neg .. => .neg
  | .mul .. => .mul | .div .. => .div | .recip .. => .recip | .pow .. => .pow | .npow .. => .npow
  | .nroot .. => .nroot | .exp .. => .exp | .log .. => .log | .cos .. => .cos | .sin .. => .sin

/-- the parameter that `==` compares with `=`: the name of a variable, the `n` of a power or root -/
def Expr.label : Expr α → Option (String ⊕ Nat)
  | .var _ x => some (.inl x)
  | .npow _ _ n | .nroot _ _ n => some (.inr n)
  | _ => none

/-- the parameter that `==` compares with `N.eq`: the value of a constant, the base of an
exponential or logarithm -/
def Expr.num? : Expr α → Option α
  | .const _ v | .exp _ _ v | .log _ _ v => some v
  | _ => none

def optEq (N : Num α) : Option α → Option α → Bool
  | some v, some w => N.eq v w
  | none, none => true
  | _, _ => false

theorem Expr.eq_of_ctor (b : Expr α) :
    match b.ctor with
    | .const => ∃ g w, b = .const g w
    | .var => ∃ g y, b = .var g y
    | .add => ∃ g bs, b = .add g bs
    | .mul => ∃ g bs, b = .mul g bs
    | .minus => ∃ g l r, b = .minus g l r
    | .div => ∃ g l r, b = .div g l r
    | .pow => ∃ g l r, b = .pow g l r
    | .neg => ∃ g u, b = .neg g u
    | .recip => ∃ g u, b = .recip g u
    | .cos => ∃ g u, b = .cos g u
    | .sin => ∃ g u, b = .sin g u
    | .npow => ∃ g u m, b = .npow g u m
    | .nroot => ∃ g u m, b = .nroot g u m
    | .exp => ∃ g u c, b = .exp g u c
    | .log => ∃ g u c, b = .log g u c := by
  cases b <;> first | exact ⟨_, _, rfl⟩ | exact ⟨_, _, _, rfl⟩

/-- Induction on the first of two expressions, the second of the same class: a statement about a
pair of expressions that holds whenever the classes differ is proved on the 15 pairs of like nodes,
with the statement for the operands of the first against anything as induction hypothesis. -/
theorem Expr.ind₂ {P : Expr α → Expr α → Prop} (off : ∀ a b, a.ctor ≠ b.ctor → P a b)
    (const : ∀ f v g w, P (.const f v) (.const g w)) (var : ∀ f x g y, P (.var f x) (.var g y))
    (add : ∀ f as g bs, (∀ a ∈ as, ∀ b, P a b) → P (.add f as) (.add g bs))
    (mul : ∀ f as g bs, (∀ a ∈ as, ∀ b, P a b) → P (.mul f as) (.mul g bs))
    (minus : ∀ f l r g l' r', (∀ b, P l b) → (∀ b, P r b) → P (.minus f l r) (.minus g l' r'))
    (div : ∀ f l r g l' r', (∀ b, P l b) → (∀ b, P r b) → P (.div f l r) (.div g l' r'))
    (pow : ∀ f l r g l' r', (∀ b, P l b) → (∀ b, P r b) → P (.pow f l r) (.pow g l' r'))
    (neg : ∀ f u g u', (∀ b, P u b) → P (.neg f u) (.neg g u'))
    (recip : ∀ f u g u', (∀ b, P u b) → P (.recip f u) (.recip g u'))
    (cos : ∀ f u g u', (∀ b, P u b) → P (.cos f u) (.cos g u'))
    (sin : ∀ f u g u', (∀ b, P u b) → P (.sin f u) (.sin g u'))
    (npow : ∀ f u n g u' m, (∀ b, P u b) → P (.npow f u n) (.npow g u' m))
    (nroot : ∀ f u n g u' m, (∀ b, P u b) → P (.nroot f u n) (.nroot g u' m))
    (exp : ∀ f u x g u' y, (∀ b, P u b) → P (.exp f u x) (.exp g u' y))
    (log : ∀ f u x g u' y, (∀ b, P u b) → P (.log f u x) (.log g u' y)) : ∀ a b, P a b := by
  intro a
  induction a using Expr.ind
  all_goals
    intro b
    refine if h : _ = b.ctor then ?_ else off _ b h
    have hb := b.eq_of_ctor
    rw [← h] at hb
  case const => obtain ⟨_, _, rfl⟩ := hb; exact const ..
  case var => obtain ⟨_, _, rfl⟩ := hb; exact var ..
  case add ih => obtain ⟨_, _, rfl⟩ := hb; exact add _ _ _ _ ih
  case mul ih => obtain ⟨_, _, rfl⟩ := hb; exact mul _ _ _ _ ih
  case minus ihl ihr => obtain ⟨_, _, _, rfl⟩ := hb; exact minus _ _ _ _ _ _ ihl ihr
  case div ihl ihr => obtain ⟨_, _, _, rfl⟩ := hb; exact div _ _ _ _ _ _ ihl ihr
  case pow ihl ihr => obtain ⟨_, _, _, rfl⟩ := hb; exact pow _ _ _ _ _ _ ihl ihr
  case neg ih => obtain ⟨_, _, rfl⟩ := hb; exact neg _ _ _ _ ih
  case recip ih => obtain ⟨_, _, rfl⟩ := hb; exact recip _ _ _ _ ih
  case cos ih => obtain ⟨_, _, rfl⟩ := hb; exact cos _ _ _ _ ih
  case sin ih => obtain ⟨_, _, rfl⟩ := hb; exact sin _ _ _ _ ih
  case npow ih => obtain ⟨_, _, _, rfl⟩ := hb; exact npow _ _ _ _ _ _ ih
  case nroot ih => obtain ⟨_, _, _, rfl⟩ := hb; exact nroot _ _ _ _ _ _ ih
  case exp ih => obtain ⟨_, _, _, rfl⟩ := hb; exact exp _ _ _ _ _ _ ih
  case log ih => obtain ⟨_, _, _, rfl⟩ := hb; exact log _ _ _ _ _ _ ih

theorem Expr.ctor_fresh (e : Expr α) : e.fresh.ctor = e.ctor := by cases e <;> rfl
theorem Expr.label_fresh (e : Expr α) : e.fresh.label = e.label := by cases e <;> rfl
theorem Expr.num?_fresh (e : Expr α) : e.fresh.num? = e.num? := by cases e <;> rfl

theorem beq_eq (N : Num α) (a b : Expr α) :
    beq N a b = (decide (a.ctor = b.ctor) && (beqList N (children a) (children b) &&
      (decide (a.label = b.label) && optEq N b.num? a.num?))) := by
  induction a, b using Expr.ind₂ with
  | off a b h =>
    -- `beq` splits into the 15 pairs of like nodes, where `h` is absurd, and `false`
    rw [decide_eq_false h, Bool.false_and]
    unfold beq
    split <;> first | rfl | exact absurd rfl h
  | _ =>
    simp only [beq, beqList, Expr.ctor, Expr.label, Expr.num?, children, optEq,
      Bool.beq_eq_decide_eq, decide_true, Bool.true_and, Bool.and_true, Option.some.injEq,
      Sum.inl.injEq, Sum.inr.injEq]

theorem beq_iff (N : Num α) (a b : Expr α) :
    beq N a b = true ↔ a.ctor = b.ctor ∧ beqList N (children a) (children b) = true ∧ a.label = b.label ∧
      optEq N b.num? a.num? = true := by
  rw [beq_eq]
  simp only [Bool.and_eq_true, decide_eq_true_eq]

theorem beq_ctor_eq {N : Num α} {a b : Expr α} (h : beq N a b = true) : a.ctor = b.ctor :=
  ((beq_iff N a b).mp h).1

/-! ### the laws of `==`

Each law is stated for lists first, with the law for the elements as a hypothesis: that is the form
in which the induction hypothesis of `Expr.ind_children` supplies it. -/

section laws
variable {N : Num α}

theorem optEq_refl (hr : ∀ v, N.eq v v = true) (x : Option α) : optEq N x x = true := by
  cases x <;> simp [optEq, hr]

theorem optEq_symm (hs : ∀ v w, N.eq v w = true → N.eq w v = true) {x y : Option α}
    (h : optEq N x y = true) : optEq N y x = true := by
  cases x <;> cases y <;> simp_all [optEq]

theorem optEq_trans (ht : ∀ u v w, N.eq u v = true → N.eq v w = true → N.eq u w = true)
    {x y z : Option α} (h₁ : optEq N x y = true) (h₂ : optEq N y z = true) :
    optEq N x z = true := by
  cases x <;> cases y <;> cases z <;> simp_all [optEq]
  exact ht _ _ _ h₁ h₂

theorem beqList_refl_of {as : List (Expr α)} (h : ∀ a ∈ as, beq N a a = true) :
    beqList N as as = true := by
  induction as with
  | nil => rfl
  | cons a as ih =>
    rw [beqList, h a List.mem_cons_self, ih fun b hb => h b (List.mem_cons_of_mem _ hb)]
    rfl

theorem beqList_symm_of {as : List (Expr α)}
    (h : ∀ a ∈ as, ∀ b, beq N a b = true → beq N b a = true) :
    ∀ {bs}, beqList N as bs = true → beqList N bs as = true := by
  induction as with
  | nil => intro bs hb; cases bs with | nil => rfl | cons => exact Bool.noConfusion hb
  | cons a as ih =>
    intro bs hb
    cases bs with
    | nil => exact Bool.noConfusion hb
    | cons b bs =>
      rw [beqList, Bool.and_eq_true] at hb ⊢
      exact ⟨h a List.mem_cons_self b hb.1, ih (fun c hc => h c (List.mem_cons_of_mem _ hc)) hb.2⟩

theorem beqList_trans_of {as : List (Expr α)}
    (h : ∀ a ∈ as, ∀ b c, beq N a b = true → beq N b c = true → beq N a c = true) :
    ∀ {bs cs}, beqList N as bs = true → beqList N bs cs = true → beqList N as cs = true := by
  induction as with
  | nil =>
    intro bs cs h₁ h₂
    cases bs with | nil => exact h₂ | cons => exact Bool.noConfusion h₁
  | cons a as ih =>
    intro bs cs h₁ h₂
    cases bs with
    | nil => exact Bool.noConfusion h₁
    | cons b bs =>
      cases cs with
      | nil => exact Bool.noConfusion h₂
      | cons c cs =>
        rw [beqList, Bool.and_eq_true] at h₁ h₂ ⊢
        exact ⟨h a List.mem_cons_self b c h₁.1 h₂.1,
          ih (fun d hd => h d (List.mem_cons_of_mem _ hd)) h₁.2 h₂.2⟩

theorem beq_refl_of (hr : ∀ v, N.eq v v = true) (e : Expr α) : beq N e e = true := by
  induction e using Expr.ind_children with
  | h e ih => exact (beq_iff N e e).mpr ⟨rfl, beqList_refl_of ih, rfl, optEq_refl hr _⟩

theorem beq_symm_of (hs : ∀ v w, N.eq v w = true → N.eq w v = true) {a b : Expr α}
    (h : beq N a b = true) : beq N b a = true := by
  induction a using Expr.ind_children generalizing b with
  | h a ih =>
    obtain ⟨hc, hk, hl, hn⟩ := (beq_iff N a b).mp h
    exact (beq_iff N b a).mpr ⟨hc.symm, beqList_symm_of (fun k hk b => ih k hk) hk, hl.symm,
      optEq_symm hs hn⟩

theorem beq_trans_of (ht : ∀ u v w, N.eq u v = true → N.eq v w = true → N.eq u w = true)
    {a b c : Expr α} (h₁ : beq N a b = true) (h₂ : beq N b c = true) : beq N a c = true := by
  induction a using Expr.ind_children generalizing b c with
  | h a ih =>
    obtain ⟨hc₁, hk₁, hl₁, hn₁⟩ := (beq_iff N a b).mp h₁
    obtain ⟨hc₂, hk₂, hl₂, hn₂⟩ := (beq_iff N b c).mp h₂
    exact (beq_iff N a c).mpr ⟨hc₁.trans hc₂, beqList_trans_of (fun k hk b c => ih k hk) hk₁ hk₂,
      hl₁.trans hl₂, optEq_trans ht hn₂ hn₁⟩

end laws

section flags
variable (N : Num α)

theorem beqList_fresh_left_of {as : List (Expr α)}
    (h : ∀ a ∈ as, ∀ b, beq N a.fresh b = beq N a b) :
    ∀ bs, beqList N (freshList as) bs = beqList N as bs := by
  induction as with
  | nil => intro bs; rfl
  | cons a as ih =>
    intro bs
    cases bs with
    | nil => rfl
    | cons b bs =>
      rw [freshList, beqList, beqList, h a List.mem_cons_self,
        ih fun c hc => h c (List.mem_cons_of_mem _ hc)]

theorem beqList_fresh_right_of {bs : List (Expr α)}
    (h : ∀ b ∈ bs, ∀ a, beq N a b.fresh = beq N a b) :
    ∀ as, beqList N as (freshList bs) = beqList N as bs := by
  induction bs with
  | nil => intro as; rfl
  | cons b bs ih =>
    intro as
    cases as with
    | nil => rfl
    | cons a as =>
      rw [freshList, beqList, beqList, h b List.mem_cons_self,
        ih fun c hc => h c (List.mem_cons_of_mem _ hc)]

theorem beq_fresh_left (a b : Expr α) : beq N a.fresh b = beq N a b := by
  induction a using Expr.ind_children generalizing b with
  | h a ih =>
    rw [beq_eq, beq_eq N a, ctor_fresh, children_fresh, label_fresh, num?_fresh,
      beqList_fresh_left_of N ih]

theorem beq_fresh_right (a b : Expr α) : beq N a b.fresh = beq N a b := by
  induction b using Expr.ind_children generalizing a with
  | h b ih =>
    rw [beq_eq, beq_eq N a, ctor_fresh, children_fresh, label_fresh, num?_fresh,
      beqList_fresh_right_of N ih]

theorem beqList_fresh_left : ∀ as bs : List (Expr α), beqList N (freshList as) bs = beqList N as bs :=
  fun _ => beqList_fresh_left_of N fun a _ => beq_fresh_left N a

theorem beqList_fresh_right : ∀ as bs : List (Expr α), beqList N as (freshList bs) = beqList N as bs :=
  fun as _ => beqList_fresh_right_of N (fun b _ a => beq_fresh_right N a b) as

theorem beq_setFlags_left (g : Flags) (a b : Expr α) : beq N (a.setFlags g) b = beq N a b := by
  rw [← beq_fresh_left, fresh_setFlags, beq_fresh_left]

theorem beq_setFlags_right (g : Flags) (a b : Expr α) : beq N a (b.setFlags g) = beq N a b := by
  rw [← beq_fresh_right, fresh_setFlags, beq_fresh_right]

theorem beq_of_fresh_eq (hrefl : ∀ v, N.eq v v = true) {a b : Expr α} (h : a.fresh = b.fresh) :
    beq N a b = true := by
  rw [← beq_fresh_left, h, beq_fresh_left]
  exact beq_refl_of hrefl b

end flags

end Smooth
