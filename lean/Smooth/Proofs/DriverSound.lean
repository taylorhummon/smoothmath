/-
Proofs/DriverSound — C08 at the level of the driver: one step of `_take_reduction_step`, the
`_fully_reduce` loop for every budget (exhaustion included), and the normal-form pass, all yield an
expression that `Refines` the input — assuming the individual rewrite rules do where they are
`Allowed` (`RulesSound`; proved rule by rule in Proofs/RulesNary and Proofs/RulesUnary).

The side condition is exact: `stepRedex e` is the (rule, redex) pair of the one rule application the
step `stepF realNum e` performs (if it performs one), and only that application must be `Allowed`.
-/
import Smooth.Proofs.ListSem

namespace Smooth
open Expr

theorem denList_congr_b {ρ ρ' : String → ℝ} : ∀ es : List (Expr ℝ),
    (∀ x, OccursList x es → ρ x = ρ' x) → denList ρ es = denList ρ' es :=
  denList_congr

theorem domList_congr_of {ρ ρ' : String → ℝ} (es : List (Expr ℝ))
    (ih : ∀ e ∈ es, (∀ x, Occurs x e → ρ x = ρ' x) → (Dom ρ e ↔ Dom ρ' e))
    (h : ∀ x, OccursList x es → ρ x = ρ' x) : DomList ρ es ↔ DomList ρ' es := by
  induction es with
  | nil => exact Iff.rfl
  | cons e es ihes =>
    rw [DomList, DomList, ih e List.mem_cons_self fun x hx => h x (.inl hx),
      ihes (fun a ha => ih a (List.mem_cons_of_mem _ ha)) fun x hx => h x (.inr hx)]

theorem dom_congr {ρ ρ' : String → ℝ} (e : Expr ℝ) (h : ∀ x, Occurs x e → ρ x = ρ' x) :
    Dom ρ e ↔ Dom ρ' e := by
  induction e using Expr.ind with
  | const | var => exact Iff.rfl
  | add _ as ih | mul _ as ih => simp only [Dom, domList_congr_of as ih h]
  | minus _ l r ihl ihr =>
    simp only [Dom, ihl fun x hx => h x (.inl hx), ihr fun x hx => h x (.inr hx)]
  | div _ l r ihl ihr =>
    simp only [Dom, ihl fun x hx => h x (.inl hx), ihr fun x hx => h x (.inr hx),
      den_congr r fun x hx => h x (.inr hx)]
  | pow _ l r ihl ihr =>
    simp only [Dom, ihl fun x hx => h x (.inl hx), ihr fun x hx => h x (.inr hx),
      den_congr l fun x hx => h x (.inl hx)]
  | neg _ u ih | cos _ u ih | sin _ u ih | npow _ u _ ih | exp _ u _ ih => simp only [Dom, ih h]
  | recip _ u ih | nroot _ u _ ih | log _ u _ ih => simp only [Dom, ih h, den_congr u h]

theorem domList_congr {ρ ρ' : String → ℝ} : ∀ es : List (Expr ℝ),
    (∀ x, OccursList x es → ρ x = ρ' x) → (DomList ρ es ↔ DomList ρ' es) :=
  fun es => domList_congr_of es fun e _ => dom_congr e

theorem not_occurs_of_vars_nil {e : Expr ℝ} (h : e.vars = []) (x : String) : ¬ Occurs x e :=
  fun hx => List.not_mem_nil (h ▸ (mem_vars x e).mpr hx)

theorem supp_of_vars_nil {e : Expr ℝ} (h : e.vars = []) (p : Point ℝ) : Supp p e :=
  (supp_iff_vars p e).mpr (by rw [h]; intro x hx; cases hx)

theorem den_of_vars_nil {e : Expr ℝ} (h : e.vars = []) (ρ ρ' : String → ℝ) : den ρ e = den ρ' e :=
  den_congr e fun x hx => absurd hx (not_occurs_of_vars_nil h x)

theorem dom_of_vars_nil {e : Expr ℝ} (h : e.vars = []) (ρ ρ' : String → ℝ) : Dom ρ e ↔ Dom ρ' e :=
  dom_congr e fun x hx => absurd hx (not_occurs_of_vars_nil h x)

theorem fold_refines {e : Expr ℝ} {v : ℝ} (h : foldAttempt realNum e = some (.inl v)) :
    Refines e (mkConst v) := by
  obtain ⟨hv, -, -, hev⟩ := foldAttempt_eq_inl_iff.mp h
  refine ⟨fun _ => trivial, fun _ _ => trivial, fun hwf ρ _ => ⟨trivial, ?_⟩⟩
  obtain ⟨_, _, rfl⟩ := (evalR_good [] e hwf).ok_iff.mp hev
  exact den_of_vars_nil hv _ _

/-- what the per-rule theorems provide: each rule refines its input wherever it is `Allowed`
(`Allowed` is the abstract side condition; it is `True` for all rules but the known exception) -/
def RulesSound (Allowed : RuleId → Expr ℝ → Prop) : Prop :=
  ∀ r e e', r.apply realNum e = some e' → Allowed r e → Refines e e'

/-- the redex of a step at `self`, given the redex `child` of the step inside its operands; when all
operands are flagged (`child = none`) it is the node itself (with `_evaluation_failed` set when
constant folding was attempted and raised) under the first reducer that applies -/
noncomputable def nodeRedex (self : Expr ℝ) (child : Option (Option (RuleId × Expr ℝ))) :
    Option (RuleId × Expr ℝ) :=
  if self.isRed then none
  else match foldAttempt realNum self with
    | some (.inl _) => none
    | fa =>
      match child with
      | some c => c
      | none =>
        let self' := if fa.isSome then self.markFailed else self
        (firstRule realNum self' (reducers self')).map fun re => (re.1, self')

mutual
/-- `stepRedex e = some (r, e₀)`: the step `stepF realNum e` applies rule `r` to the sub-expression
`e₀` (and does nothing else but rebuild the path to it); `none`: the step applies no rule (it returns
a flagged node unchanged, folds a constant, or sets a flag).  Mirrors `stepF`. -/
noncomputable def stepRedex : Expr ℝ → Option (RuleId × Expr ℝ)
  | .const _ _ => none
  | .var _ _ => none
  | .add f as => nodeRedex (.add f as) (listRedex as)
  | .mul f as => nodeRedex (.mul f as) (listRedex as)
  | .minus f l r => nodeRedex (.minus f l r)
      (if !l.isRed then some (stepRedex l) else if !r.isRed then some (stepRedex r) else none)
  | .div f l r => nodeRedex (.div f l r)
      (if !l.isRed then some (stepRedex l) else if !r.isRed then some (stepRedex r) else none)
  | .pow f l r => nodeRedex (.pow f l r)
      (if !l.isRed then some (stepRedex l) else if !r.isRed then some (stepRedex r) else none)
  | .neg f u => nodeRedex (.neg f u) (if !u.isRed then some (stepRedex u) else none)
  | .recip f u => nodeRedex (.recip f u) (if !u.isRed then some (stepRedex u) else none)
  | .npow f u n => nodeRedex (.npow f u n) (if !u.isRed then some (stepRedex u) else none)
  | .nroot f u n => nodeRedex (.nroot f u n) (if !u.isRed then some (stepRedex u) else none)
  | .exp f u b => nodeRedex (.exp f u b) (if !u.isRed then some (stepRedex u) else none)
  | .log f u b => nodeRedex (.log f u b) (if !u.isRed then some (stepRedex u) else none)
  | .cos f u => nodeRedex (.cos f u) (if !u.isRed then some (stepRedex u) else none)
  | .sin f u => nodeRedex (.sin f u) (if !u.isRed then some (stepRedex u) else none)
/-- the redex inside the first unflagged entry of a child list (`none`: every entry is flagged) -/
noncomputable def listRedex : List (Expr ℝ) → Option (Option (RuleId × Expr ℝ))
  | [] => none
  | e :: es => if !e.isRed then some (stepRedex e) else listRedex es
end

theorem stepRedex_eq (e : Expr ℝ) : stepRedex e = nodeRedex e (listRedex (children e)) := by
  cases e
  case const | var =>
    simp [stepRedex, nodeRedex, listRedex, children, foldAttempt, isConstNode, vars, varsAux,
      reducers, firstRule]
  all_goals simp only [stepRedex, listRedex, children]

theorem listRedex_eq_none {as : List (Expr ℝ)} (h : ∀ a ∈ as, a.isRed = true) :
    listRedex as = none := by
  induction as with
  | nil => rfl
  | cons a as ih =>
    rw [List.forall_mem_cons] at h
    simp only [listRedex, h.1, Bool.not_true, Bool.false_eq_true, if_false, ih h.2]

theorem listRedex_append {pre post : List (Expr ℝ)} {c : Expr ℝ} (hpre : ∀ a ∈ pre, a.isRed = true)
    (hc : c.isRed = false) : listRedex (pre ++ c :: post) = some (stepRedex c) := by
  induction pre with
  | nil => simp only [List.nil_append, listRedex, hc, Bool.not_false, if_true]
  | cons a pre ih =>
    rw [List.forall_mem_cons] at hpre
    simp only [List.cons_append, listRedex, hpre.1, Bool.not_true, Bool.false_eq_true, if_false,
      ih hpre.2]

/-- the shape of a step: with redex `(r, e₀)` the rule does apply to `e₀`, the step's event names
`r`, and the result `R` (a refinement statement) follows from the rule being sound at `e₀`;
without a redex `R` holds outright and the event names no rule -/
def StepSpec (c : Option (RuleId × Expr ℝ)) (R : Prop) (ev : StepEvent) : Prop :=
  match c with
  | some (r, e₀) => ∃ e₁, r.apply realNum e₀ = some e₁ ∧ (Refines e₀ e₁ → R) ∧ ev = .rule r
  | none => R ∧ ∀ r, ev ≠ .rule r

theorem StepSpec.mono {c : Option (RuleId × Expr ℝ)} {R R' : Prop} {ev : StepEvent}
    (h : StepSpec c R ev) (hR : R → R') : StepSpec c R' ev := by
  unfold StepSpec at *
  split
  · next r e₀ =>
    obtain ⟨e₁, h1, h2, h3⟩ := h
    exact ⟨e₁, h1, fun hh => hR (h2 hh), h3⟩
  · exact ⟨hR h.1, h.2⟩

/-- the step inside the operands and its redex: both absent, or related by `StepSpec` -/
def ChildSpec (self : Expr ℝ) (child : Option (Option (RuleId × Expr ℝ)))
    (res : Option (Expr ℝ × StepEvent)) : Prop :=
  match child, res with
  | none, none => True
  | some c, some r => StepSpec c (Refines self r.1) r.2
  | _, _ => False

def ListSpec (as : List (Expr ℝ)) (child : Option (Option (RuleId × Expr ℝ)))
    (res : Option (List (Expr ℝ) × StepEvent)) : Prop :=
  match child, res with
  | none, none => True
  | some c, some r => StepSpec c (RefinesList as r.1) r.2
  | _, _ => False

theorem stepTop_spec (self self' : Expr ℝ) (hself' : Refines self self') :
    StepSpec ((firstRule realNum self' (reducers self')).map fun re => (re.1, self'))
      (Refines self (stepTop realNum self').1) (stepTop realNum self').2 := by
  simp only [stepTop]
  cases hfr : firstRule realNum self' (reducers self') with
  | none => exact ⟨hself'.trans (markRed_refines self'), fun _ h => nomatch h⟩
  | some re => exact ⟨re.2, (firstRule_eq_some hfr).1, fun hh => hself'.trans hh, rfl⟩

theorem stepNode_spec (self : Expr ℝ) (sc : Unit → Option (Expr ℝ × StepEvent))
    (child : Option (Option (RuleId × Expr ℝ))) (h : ChildSpec self child (sc ())) :
    StepSpec (nodeRedex self child) (Refines self (stepNode realNum self sc).1)
      (stepNode realNum self sc).2 := by
  unfold stepNode nodeRedex
  cases hr : self.isRed
  · simp only [Bool.false_eq_true, if_false]
    generalize sc () = res at h ⊢
    cases child <;> cases res
    · -- no step inside the operands: `stepTop`, on the node as constant folding has left it
      rcases hfa : foldAttempt realNum self with _ | (v | u)
      · exact stepTop_spec self self (Refines.refl self)
      · exact ⟨fold_refines hfa, fun _ h => nomatch h⟩
      · exact stepTop_spec self self.markFailed (markFailed_refines self)
    · exact h.elim
    · exact h.elim
    · rcases hfa : foldAttempt realNum self with _ | (v | u)
      · exact h
      · exact ⟨fold_refines hfa, fun _ h => nomatch h⟩
      · exact h
  · exact ⟨Refines.refl self, fun _ h => nomatch h⟩

theorem stepF_spec (e : Expr ℝ) :
    StepSpec (stepRedex e) (Refines e (stepF realNum e).1) (stepF realNum e).2 := by
  induction e using Expr.ind_children with
  | _ e ih =>
    rw [stepF_eq, stepRedex_eq]
    refine stepNode_spec e _ _ ?_
    show ChildSpec e (listRedex (children e)) (stepKids realNum e)
    unfold stepKids
    cases hk : stepFirstUnreduced realNum (children e) with
    | none =>
      rw [listRedex_eq_none (stepFirstUnreduced_eq_none.mp hk)]
      trivial
    | some p =>
      obtain ⟨pre, c, post, hch, hpre, hc, rfl⟩ := stepFirstUnreduced_eq_some.mp hk
      rw [hch, listRedex_append hpre hc]
      exact (ih c (hch ▸ List.mem_append_right _ List.mem_cons_self)).mono
        (Refines.rebuild_one hch)

theorem stepList_spec : ∀ as : List (Expr ℝ),
    ListSpec as (listRedex as) (stepFirstUnreduced realNum as) := by
  intro as
  cases hk : stepFirstUnreduced realNum as with
  | none =>
    rw [listRedex_eq_none (stepFirstUnreduced_eq_none.mp hk)]
    trivial
  | some p =>
    obtain ⟨pre, c, post, rfl, hpre, hc, rfl⟩ := stepFirstUnreduced_eq_some.mp hk
    rw [listRedex_append hpre hc]
    exact (stepF_spec c).mono (RefinesList.replace pre post)

/-- the one rule application of this step (if any) is allowed -/
def StepOK (Allowed : RuleId → Expr ℝ → Prop) (e : Expr ℝ) : Prop :=
  ∀ r e₀, stepRedex e = some (r, e₀) → Allowed r e₀

theorem stepF_event_rule (e : Expr ℝ) (r : RuleId) :
    (stepF realNum e).2 = .rule r ↔ ∃ e₀, stepRedex e = some (r, e₀) := by
  have h := stepF_spec e
  unfold StepSpec at h
  split at h
  · next r' e₀ heq =>
    obtain ⟨_, _, _, hev⟩ := h
    rw [hev, heq]
    constructor
    · intro hh; injection hh with hh; subst hh; exact ⟨e₀, rfl⟩
    · rintro ⟨e₀', hh⟩
      rw [(Prod.mk.inj (Option.some.inj hh)).1]
  · next heq =>
    rw [heq]
    exact ⟨fun hh => absurd hh (h.2 r), fun ⟨_, hh⟩ => nomatch hh⟩

theorem stepRedex_applies {e : Expr ℝ} {r : RuleId} {e₀ : Expr ℝ} (h : stepRedex e = some (r, e₀)) :
    ∃ e₁, r.apply realNum e₀ = some e₁ := by
  have hs := stepF_spec e
  rw [h] at hs
  obtain ⟨e₁, h1, _⟩ := hs
  exact ⟨e₁, h1⟩

/-- every step is sound: the result of `_take_reduction_step` refines its input, provided the
one rule application it performs (if any) is allowed -/
theorem step_refines {Allowed : RuleId → Expr ℝ → Prop} (hrules : RulesSound Allowed) (e : Expr ℝ)
    (hok : StepOK Allowed e) : Refines e (stepF realNum e).1 := by
  have h := stepF_spec e
  unfold StepSpec at h
  split at h
  · next r e₀ heq =>
    obtain ⟨e₁, h1, h2, _⟩ := h
    exact h2 (hrules r e₀ e₁ h1 (hok r e₀ heq))
  · exact h.1

/-- the same with the side condition required of every conceivable rule application -/
theorem step_refines_global {Allowed : RuleId → Expr ℝ → Prop} (hrules : RulesSound Allowed)
    (hall : ∀ r e₀ e₁, r.apply realNum e₀ = some e₁ → Allowed r e₀) (e : Expr ℝ) :
    Refines e (stepF realNum e).1 :=
  step_refines hrules e fun _ _ h => by
    obtain ⟨e₁, h1⟩ := stepRedex_applies h
    exact hall _ _ e₁ h1

/-- every rule application of the run of `fullyReduceLoop` with this budget is allowed -/
def RunOK (Allowed : RuleId → Expr ℝ → Prop) : Nat → Expr ℝ → Prop
  | 0, _ => True
  | fuel + 1, e => e.isRed = true ∨ (StepOK Allowed e ∧ RunOK Allowed fuel (stepF realNum e).1)

theorem fullyReduceLoop_refines {Allowed : RuleId → Expr ℝ → Prop} (hrules : RulesSound Allowed)
    (fuel : Nat) (e : Expr ℝ) (k : Nat) (tr : List StepEvent) (hok : RunOK Allowed fuel e) :
    Refines e (fullyReduceLoop realNum fuel e k tr).expr := by
  induction fuel generalizing e k tr with
  | zero => exact markRed_refines e
  | succ fuel ih =>
    unfold fullyReduceLoop
    split
    · exact Refines.refl e
    · next hr =>
      rcases hok with hok | ⟨hok1, hok2⟩
      · exact absurd hok hr
      · exact (step_refines hrules e hok1).trans (ih _ _ _ hok2)

/-- `_fully_reduce` is sound for every budget, the exhausted one included: when the budget runs
out the partially reduced expression is returned with only a flag set -/
theorem fullyReduce_refines {Allowed : RuleId → Expr ℝ → Prop} (hrules : RulesSound Allowed)
    (bound : Nat) (e : Expr ℝ) (hok : RunOK Allowed bound e) :
    Refines e (fullyReduceWith realNum bound e).expr :=
  fullyReduceLoop_refines hrules bound e 0 [] hok

theorem RunOK_of_forall {Allowed : RuleId → Expr ℝ → Prop}
    (hall : ∀ r e₀ e₁, r.apply realNum e₀ = some e₁ → Allowed r e₀) (fuel : Nat) (e : Expr ℝ) :
    RunOK Allowed fuel e := by
  induction fuel generalizing e with
  | zero => trivial
  | succ fuel ih =>
    refine Or.inr ⟨fun _ _ h => ?_, ih _⟩
    obtain ⟨e₁, h1⟩ := stepRedex_applies h
    exact hall _ _ e₁ h1

theorem simplifiedAdd_refines (ts : List (Expr ℝ)) :
    Refines (mkAdd ts) (simplifiedAdd realNum ts) := by
  match ts with
  | [] =>
    exact ⟨fun _ => trivial, fun _ _ => trivial, fun _ ρ _ =>
      ⟨trivial, by simp [simplifiedAdd, den, denList]⟩⟩
  | [t] =>
    exact ⟨fun h => h.1, fun _ h => h.1, fun _ ρ h => ⟨h.1, by simp [simplifiedAdd, den, denList]⟩⟩
  | a :: b :: rest => exact Refines.refl _

theorem simplifiedMul_refines (ts : List (Expr ℝ)) :
    Refines (mkMul ts) (simplifiedMul realNum ts) := by
  match ts with
  | [] =>
    exact ⟨fun _ => trivial, fun _ _ => trivial, fun _ ρ _ =>
      ⟨trivial, by simp [simplifiedMul, den, denList]⟩⟩
  | [t] =>
    exact ⟨fun h => h.1, fun _ h => h.1, fun _ ρ h => ⟨h.1, by simp [simplifiedMul, den, denList]⟩⟩
  | a :: b :: rest => exact Refines.refl _

theorem add_split_refines (f : Flags) (as : List (Expr ℝ)) :
    Refines (.add f as)
      (mkMinus (mkAdd (as.filter fun t => (asNeg t).isNone)) (mkAdd (as.filterMap asNeg))) := by
  have hneg : ∀ {a u : Expr ℝ}, asNeg a = some u → ∃ g, a = Expr.neg g u := asNeg_some_iff.mp
  refine ⟨fun h => ?_, fun p h => ?_, fun _ ρ h => ⟨?_, ?_⟩⟩
  · simp only [WF, wfList_iff] at h ⊢
    exact forall_mem_filter_filterMap h fun a u ha hP => by obtain ⟨g, rfl⟩ := hneg ha; exact hP
  · simp only [Supp, suppList_iff] at h ⊢
    exact forall_mem_filter_filterMap h fun a u ha hP => by obtain ⟨g, rfl⟩ := hneg ha; exact hP
  · simp only [Dom, domList_iff] at h ⊢
    exact forall_mem_filter_filterMap h fun a u ha hP => by obtain ⟨g, rfl⟩ := hneg ha; exact hP
  · simp only [den, denList_eq_map]
    rw [sum_map_partition (den ρ) asNeg (fun u => -den ρ u) (fun e u hs => by
      obtain ⟨g, rfl⟩ := hneg hs; rfl) as, sum_map_neg, sub_eq_add_neg]

theorem mul_split_refines (f : Flags) (as : List (Expr ℝ)) :
    Refines (.mul f as)
      (mkDiv (mkMul (as.filter fun t => (asRecip t).isNone)) (mkMul (as.filterMap asRecip))) := by
  have hrecip : ∀ {a u : Expr ℝ}, asRecip a = some u → ∃ g, a = Expr.recip g u := asRecip_some_iff.mp
  refine ⟨fun h => ?_, fun p h => ?_, fun _ ρ h => ?_⟩
  · simp only [WF, wfList_iff] at h ⊢
    exact forall_mem_filter_filterMap h fun a u ha hP => by obtain ⟨g, rfl⟩ := hrecip ha; exact hP
  · simp only [Supp, suppList_iff] at h ⊢
    exact forall_mem_filter_filterMap h fun a u ha hP => by obtain ⟨g, rfl⟩ := hrecip ha; exact hP
  · simp only [Dom, domList_iff] at h ⊢
    obtain ⟨h1, h2⟩ := forall_mem_filter_filterMap (sel := asRecip)
      (Q := fun u => Dom ρ u ∧ den ρ u ≠ 0) h
      fun a u ha hP => by obtain ⟨g, rfl⟩ := hrecip ha; exact hP
    simp only [den, denList_eq_map]
    refine ⟨⟨h1, fun u hu => (h2 u hu).1, List.prod_ne_zero fun h0 => ?_⟩, ?_⟩
    · obtain ⟨u, hu, hu0⟩ := List.mem_map.mp h0
      exact (h2 u hu).2 hu0
    · rw [prod_map_partition (den ρ) asRecip (fun u => (den ρ u)⁻¹) (fun e u hs => by
        obtain ⟨g, rfl⟩ := hrecip hs; rfl) as, prod_map_inv, div_eq_mul_inv]

theorem minus_nil_left_refines (x : Expr ℝ) : Refines (mkMinus (mkAdd []) x) (mkNeg x) :=
  ⟨fun h => h.2, fun _ h => h.2, fun _ ρ h => ⟨h.2, by simp [den, denList]⟩⟩

theorem minus_nil_right_refines (x : Expr ℝ) : Refines (mkMinus x (mkAdd [])) x :=
  ⟨fun h => h.1, fun _ h => h.1, fun _ ρ h => ⟨h.1, by simp [den, denList]⟩⟩

theorem div_nil_left_refines (x : Expr ℝ) : Refines (mkDiv (mkMul []) x) (mkRecip x) :=
  ⟨fun h => h.2, fun _ h => h.2, fun _ ρ h => ⟨h.2, by simp [den, denList]⟩⟩

theorem div_nil_right_refines (x : Expr ℝ) : Refines (mkDiv x (mkMul [])) x :=
  ⟨fun h => h.1, fun _ h => h.1, fun _ ρ h => ⟨h.1, by simp [den, denList]⟩⟩

theorem addOut_refines (t1 t2 : List (Expr ℝ)) :
    Refines (mkMinus (mkAdd t1) (mkAdd t2)) (addOut realNum t1 t2) := by
  have h1 := simplifiedAdd_refines t1
  have h2 := simplifiedAdd_refines t2
  match t1, t2 with
  | [], [] =>
    exact ⟨fun _ => trivial, fun _ _ => trivial, fun _ ρ _ =>
      ⟨trivial, by simp [addOut, den, denList]⟩⟩
  | [], _ :: _ =>
    exact (minus_nil_left_refines _).trans
      (Refines.rebuild (mkNeg (mkAdd _)) (.cons h2 (.refl [])) rfl)
  | _ :: _, [] => exact (minus_nil_right_refines _).trans h1
  | _ :: _, _ :: _ =>
    exact Refines.rebuild (mkMinus (mkAdd _) (mkAdd _)) (.cons h1 (.cons h2 (.refl []))) rfl

theorem mulOut_refines (t1 t2 : List (Expr ℝ)) :
    Refines (mkDiv (mkMul t1) (mkMul t2)) (mulOut realNum t1 t2) := by
  have h1 := simplifiedMul_refines t1
  have h2 := simplifiedMul_refines t2
  match t1, t2 with
  | [], [] =>
    exact ⟨fun _ => trivial, fun _ _ => trivial, fun _ ρ _ =>
      ⟨trivial, by simp [mulOut, den, denList]⟩⟩
  | [], _ :: _ =>
    exact (div_nil_left_refines _).trans
      (Refines.rebuild (mkRecip (mkMul _)) (.cons h2 (.refl [])) rfl)
  | _ :: _, [] => exact (div_nil_right_refines _).trans h1
  | _ :: _, _ :: _ =>
    exact Refines.rebuild (mkDiv (mkMul _) (mkMul _)) (.cons h1 (.cons h2 (.refl []))) rfl

theorem Refines.rebuild_mapM? {g : Expr ℝ → Option (Expr ℝ × Bool)} (e : Expr ℝ)
    {cs : List (Expr ℝ × Bool)} (hg : ∀ b ∈ children e, ∀ c, g b = some c → Refines b c.1)
    (h : mapM? g (children e) = some cs) : Refines e (rebuildNode e (cs.map (·.1))) := by
  refine Refines.rebuild e ?_ (by simp [(mapM?_some h).1])
  generalize children e = bs at hg h
  induction bs generalizing cs with
  | nil =>
    obtain rfl := Option.some.inj h
    exact RefinesList.refl _
  | cons b bs ih =>
    simp only [mapM?] at h
    split at h
    · next c cs' hc hcs =>
      obtain rfl := Option.some.inj h
      exact RefinesList.cons (hg b List.mem_cons_self c hc)
        (ih (fun b' hb' => hg b' (List.mem_cons_of_mem _ hb')) hcs)
    · cases h

mutual
/-- every rule application of the run of `normalizeF` with this budget and fuel is allowed -/
def NormOK (Allowed : RuleId → Expr ℝ → Prop) (bound : Nat) : Nat → Expr ℝ → Prop
  | 0, _ => True
  | fuel + 1, e => RunOK Allowed bound e ∧
      NormRedOK Allowed bound fuel (fullyReduceWith realNum bound e).expr
/-- every rule application of the run of `normReducedF` with this budget and fuel is allowed -/
def NormRedOK (Allowed : RuleId → Expr ℝ → Prop) (bound : Nat) : Nat → Expr ℝ → Prop
  | 0, _ => True
  | fuel + 1, e =>
    match e with
    | .const _ _ => True
    | .var _ _ => True
    | .add _ as => (∀ t ∈ as.filter (fun t => (asNeg t).isNone), NormOK Allowed bound fuel t) ∧
        (∀ t ∈ as.filterMap asNeg, NormOK Allowed bound fuel t)
    | .mul _ as => (∀ t ∈ as.filter (fun t => (asRecip t).isNone), NormOK Allowed bound fuel t) ∧
        (∀ t ∈ as.filterMap asRecip, NormOK Allowed bound fuel t)
    | .minus _ l r => NormRedOK Allowed bound fuel l ∧ NormRedOK Allowed bound fuel r
    | .div _ l r => NormRedOK Allowed bound fuel l ∧ NormRedOK Allowed bound fuel r
    | .pow _ l r => NormRedOK Allowed bound fuel l ∧ NormRedOK Allowed bound fuel r
    | .neg _ u => NormRedOK Allowed bound fuel u
    | .recip _ u => NormRedOK Allowed bound fuel u
    | .npow _ u _ => NormRedOK Allowed bound fuel u
    | .nroot _ u _ => NormRedOK Allowed bound fuel u
    | .exp _ u _ => NormRedOK Allowed bound fuel u
    | .log _ u _ => NormRedOK Allowed bound fuel u
    | .cos _ u => NormRedOK Allowed bound fuel u
    | .sin _ u => NormRedOK Allowed bound fuel u
end

theorem normRedOK_node {A : RuleId → Expr ℝ → Prop} (bound fuel : Nat) {e : Expr ℝ}
    (hn : isNaryNode e = false) :
    NormRedOK A bound (fuel + 1) e ↔ ∀ c ∈ children e, NormRedOK A bound fuel c := by
  cases e <;> simp only [isNaryNode, reduceCtorEq] at hn <;>
    simp only [NormRedOK, children, List.forall_mem_cons, List.not_mem_nil, false_imp_iff,
      implies_true, and_true]

theorem norm_refines_aux {Allowed : RuleId → Expr ℝ → Prop} (hrules : RulesSound Allowed)
    (bound fuel : Nat) :
    (∀ e e' w, NormOK Allowed bound fuel e → normalizeF realNum bound fuel e = some (e', w) →
      Refines e e') ∧
    (∀ e e' w, NormRedOK Allowed bound fuel e → normReducedF realNum bound fuel e = some (e', w) →
      Refines e e') := by
  induction fuel with
  | zero =>
    exact ⟨fun _ _ _ _ h => by simp [normalizeF] at h, fun _ _ _ _ h => by simp [normReducedF] at h⟩
  | succ fuel ih =>
    refine ⟨fun e e' w hok h => ?_, fun e e' w hok h => ?_⟩
    · simp only [normalizeF] at h
      split at h
      · next e'' w'' hn =>
        obtain ⟨rfl, _⟩ := Prod.mk.inj (Option.some.inj h)
        exact (fullyReduce_refines hrules bound e hok.1).trans (ih.2 _ _ _ hok.2 hn)
      · cases h
    · cases hnary : isNaryNode e
      · obtain ⟨cs, hcs, rfl, _⟩ := (normReducedF_node realNum bound fuel e hnary).mp h
        exact Refines.rebuild_mapM? e (fun c hc x hx =>
          ih.2 c x.1 x.2 ((normRedOK_node bound fuel hnary).mp hok c hc) hx) hcs
      · cases e <;> simp only [isNaryNode, reduceCtorEq] at hnary
        case add f as =>
          rw [normReducedF_add] at h
          split at h
          · next t1 t2 ht1 ht2 =>
            obtain ⟨rfl, _⟩ := Prod.mk.inj (Option.some.inj h)
            have h1 := Refines.rebuild_mapM? (mkAdd _)
              (fun b hb c hc => ih.1 b c.1 c.2 (hok.1 b hb) hc) ht1
            have h2 := Refines.rebuild_mapM? (mkAdd _)
              (fun b hb c hc => ih.1 b c.1 c.2 (hok.2 b hb) hc) ht2
            exact ((add_split_refines f as).trans (Refines.rebuild (mkMinus _ _)
              (.cons h1 (.cons h2 (.refl []))) rfl)).trans (addOut_refines _ _)
          · cases h
        case mul f as =>
          rw [normReducedF_mul] at h
          split at h
          · next t1 t2 ht1 ht2 =>
            obtain ⟨rfl, _⟩ := Prod.mk.inj (Option.some.inj h)
            have h1 := Refines.rebuild_mapM? (mkMul _)
              (fun b hb c hc => ih.1 b c.1 c.2 (hok.1 b hb) hc) ht1
            have h2 := Refines.rebuild_mapM? (mkMul _)
              (fun b hb c hc => ih.1 b c.1 c.2 (hok.2 b hb) hc) ht2
            exact ((mul_split_refines f as).trans (Refines.rebuild (mkDiv _ _)
              (.cons h1 (.cons h2 (.refl []))) rfl)).trans (mulOut_refines _ _)
          · cases h

/-- the normal-form pass is sound on arbitrary input trees (it does not rely on the input being
reduced) -/
theorem normReduced_refines {Allowed : RuleId → Expr ℝ → Prop} (hrules : RulesSound Allowed)
    (bound fuel : Nat) (e e' : Expr ℝ) (w : Bool) (hok : NormRedOK Allowed bound fuel e)
    (h : normReducedF realNum bound fuel e = some (e', w)) : Refines e e' :=
  (norm_refines_aux hrules bound fuel).2 e e' w hok h

/-- `_normalize` is sound: full reduction (any budget, exhaustion included) followed by the
normal-form pass -/
theorem normalize_refines {Allowed : RuleId → Expr ℝ → Prop} (hrules : RulesSound Allowed)
    (bound fuel : Nat) (e e' : Expr ℝ) (w : Bool) (hok : NormOK Allowed bound fuel e)
    (h : normalizeF realNum bound fuel e = some (e', w)) : Refines e e' :=
  (norm_refines_aux hrules bound fuel).1 e e' w hok h

theorem listRedex_eq_some {as : List (Expr ℝ)} {c : Option (RuleId × Expr ℝ)}
    (h : listRedex as = some c) : ∃ a ∈ as, c = stepRedex a := by
  induction as with
  | nil => cases h
  | cons e es ih =>
    simp only [listRedex] at h
    split at h
    · exact ⟨e, List.mem_cons_self, (Option.some.inj h).symm⟩
    · obtain ⟨a, ha, hc⟩ := ih h
      exact ⟨a, List.mem_cons_of_mem _ ha, hc⟩

/-- the redex of a step is a node of the stepped expression, possibly with `_evaluation_failed`
set -/
theorem stepRedex_sub {e : Expr ℝ} {r : RuleId} {e₀ : Expr ℝ} (h : stepRedex e = some (r, e₀)) :
    ∃ s, Sub s e ∧ (e₀ = s ∨ e₀ = s.markFailed) := by
  induction e using Expr.ind_children with
  | _ e ih =>
    rw [stepRedex_eq, nodeRedex] at h
    split at h
    · cases h
    split at h
    · cases h
    split at h
    · next c hc =>
      obtain ⟨a, ha, rfl⟩ := listRedex_eq_some hc
      obtain ⟨s, hs, he₀⟩ := ih a ha h
      exact ⟨s, Sub.child ha hs, he₀⟩
    · obtain ⟨re, -, hre⟩ := Option.map_eq_some_iff.mp h
      refine ⟨e, Sub.refl e, ?_⟩
      rw [← (Prod.mk.inj hre).2]
      split
      · exact .inr rfl
      · exact .inl rfl

/-- the side condition of the normal-form pass at a node, from the side conditions one level down,
for a predicate that passes to operands -/
theorem normRedOK_succ_of_child {P : Expr ℝ → Prop} {A : RuleId → Expr ℝ → Prop}
    (hchild : ∀ {e c : Expr ℝ}, P e → c ∈ children e → P c) {bound fuel : Nat}
    (ih1 : ∀ e, P e → NormOK A bound fuel e) (ih2 : ∀ e, P e → NormRedOK A bound fuel e)
    {e : Expr ℝ} (h : P e) : NormRedOK A bound (fuel + 1) e := by
  cases hn : isNaryNode e
  · exact (normRedOK_node bound fuel hn).mpr fun c hc => ih2 c (hchild h hc)
  · -- each term, and the operand of each negated (inverted) term, satisfies `P`
    cases e <;> simp only [isNaryNode, reduceCtorEq] at hn
    case add f as =>
      obtain ⟨h1, h2⟩ := forall_mem_filter_filterMap (sel := asNeg)
        (fun a ha => hchild h ha) fun a u hau ha => hchild ha (mem_children_of_asNeg hau)
      rw [NormRedOK]
      exact ⟨fun t ht => ih1 t (h1 t ht), fun t ht => ih1 t (h2 t ht)⟩
    case mul f as =>
      obtain ⟨h1, h2⟩ := forall_mem_filter_filterMap (sel := asRecip)
        (fun a ha => hchild h ha) fun a u hau ha => hchild ha (mem_children_of_asRecip hau)
      rw [NormRedOK]
      exact ⟨fun t ht => ih1 t (h1 t ht), fun t ht => ih1 t (h2 t ht)⟩

section closed
variable {P : Expr ℝ → Prop} {A : RuleId → Expr ℝ → Prop} (hP : DriverClosed realNum P)
  (hstep : ∀ e, P e → StepOK A e)
include hP hstep

/-- a predicate the driver preserves and under which the one rule application of a step is allowed
makes every rule application of the whole `_fully_reduce` run allowed, and of the whole
`_normalize` run (`normOK_of_driverClosed`) -/
theorem runOK_of_driverClosed (bound : Nat) {e : Expr ℝ} (h : P e) : RunOK A bound e := by
  induction bound generalizing e with
  | zero => trivial
  | succ bound ih => exact Or.inr ⟨hstep e h, ih (hP.stepF h)⟩

theorem normOK_of_driverClosed (bound fuel : Nat) :
    (∀ e, P e → NormOK A bound fuel e) ∧ (∀ e, P e → NormRedOK A bound fuel e) := by
  induction fuel with
  | zero => exact ⟨fun _ _ => by simp [NormOK], fun _ _ => by simp [NormRedOK]⟩
  | succ fuel ih =>
    refine ⟨fun e h => ?_, fun e h => ?_⟩
    · rw [NormOK]
      exact ⟨runOK_of_driverClosed hP hstep bound h, ih.2 _ (hP.fullyReduceWith bound h)⟩
    · exact normRedOK_succ_of_child hP.child ih.1 ih.2 h

end closed

end Smooth
