/-
Proofs/Forward — forward mode (`fwdG`, the model of `_numeric_partial`) over the reals:
on supplied points of the domain it returns the derivative of the denotation along the coordinate;
on supplied points outside the domain it answers `DomainError`; it never answers anything but
`DomainError` / `CoordinateMissing`.
-/
import Smooth.Proofs.Calculus

namespace Smooth
open Classical
variable {β γ δ : Type}

/-- outcome specification of a differentiation query: with `S` = supplied and `D` = in the domain,
an answer with property `P`, or `DomainError`; and never another error than these two.  This is
`Good` (Proofs/Eval) at lesser strength: the answer is given by a property, not as a value, and
without `S` only the error kind is constrained, since a query, unlike an evaluation, may answer
although `S` fails. -/
def Spec (S D : Prop) (r : R β) (P : β → Prop) : Prop :=
  (S → D → ∃ a, r = .ok a ∧ P a) ∧ (S → ¬ D → r = .error .domain) ∧
  (∀ err, r = .error err → err = .domain ∨ err = .missing)

section spec
variable {S D S₁ D₁ S₂ D₂ : Prop} {P : β → Prop}

theorem Spec.on_domain {r : R β} (h : Spec S D r P) (hs : S) (hd : D) : ∃ a, r = .ok a ∧ P a :=
  h.1 hs hd

theorem Spec.off_domain {r : R β} (h : Spec S D r P) (hs : S) (hd : ¬ D) : r = .error .domain :=
  h.2.1 hs hd

theorem Spec.error_kinds {r : R β} (h : Spec S D r P) {err : Err} (he : r = .error err) :
    err = .domain ∨ err = .missing :=
  h.2.2 err he

theorem Spec.ok {a : β} (hd : D) (ha : P a) : Spec S D (.ok a) P :=
  ⟨fun _ _ => ⟨a, rfl, ha⟩, fun _ h => absurd hd h, fun _ h => nomatch h⟩

theorem Spec.domain (hd : ¬ D) : Spec S D (.error .domain) P :=
  ⟨fun _ h => absurd h hd, fun _ _ => rfl, fun _ h => by cases h; exact .inl rfl⟩

/-- an operand is evaluated first: the rest is looked at only where the evaluation succeeds -/
theorem Spec.good_bind {r : R γ} {v : γ} {k : γ → R β} (h : Good S₁ D₁ r v) (hS : S → S₁)
    (hD : D → D₁) (hk : S₁ → D₁ → r = .ok v → Spec S D (k v) P) : Spec S D (r >>= k) P := by
  rcases h with ⟨hs, hd, rfl⟩ | ⟨hs, hd, rfl⟩ | ⟨hs, rfl | rfl⟩
  · exact hk hs hd rfl
  · exact Spec.domain fun h => hd (hD h)
  · exact ⟨fun h => absurd (hS h) hs, fun h => absurd (hS h) hs,
      fun _ h => by cases h; exact .inr rfl⟩
  · exact ⟨fun h => absurd (hS h) hs, fun h => absurd (hS h) hs,
      fun _ h => by cases h; exact .inl rfl⟩

theorem Spec.guard {G : Prop} {dG : Decidable G} {c : R Unit} {k : R β}
    (hc : c = if G then .ok () else .error .domain) (hD : D → G) (hk : G → Spec S D k P) :
    Spec S D (c >>= fun _ => k) P := by
  subst hc
  split
  · next hg => exact hk hg
  · next hg => exact Spec.domain fun h => hg (hD h)

theorem Spec.seq {P₁ : γ → Prop} {P₂ : γ → β → Prop} {r : R γ} {k : γ → R β}
    (h₁ : Spec S₁ D₁ r P₁) (h₂ : ∀ a, Spec S₂ D₂ (k a) (P₂ a)) (hS : S → S₁ ∧ S₂)
    (hD : D ↔ D₁ ∧ D₂) (hP : ∀ a b, P₁ a → P₂ a b → P b) : Spec S D (r >>= k) P := by
  refine ⟨fun hs hd => ?_, fun hs hd => ?_, fun err h => ?_⟩
  · obtain ⟨a, rfl, ha⟩ := h₁.on_domain (hS hs).1 (hD.mp hd).1
    obtain ⟨b, hb, hab⟩ := (h₂ a).on_domain (hS hs).2 (hD.mp hd).2
    exact ⟨b, hb, hP a b ha hab⟩
  · by_cases hd₁ : D₁
    · obtain ⟨a, rfl, _⟩ := h₁.on_domain (hS hs).1 hd₁
      exact (h₂ a).off_domain (hS hs).2 fun hd₂ => hd (hD.mpr ⟨hd₁, hd₂⟩)
    · rw [h₁.off_domain (hS hs).1 hd₁]; rfl
  · rcases R.bind_eq_error_iff.mp h with h | ⟨a, _, h⟩
    · exact h₁.error_kinds h
    · exact (h₂ a).error_kinds h

theorem Spec.mono {Q : β → Prop} {r : R β} (h : Spec S D r P) (hP : ∀ a, P a → Q a) :
    Spec S D r Q :=
  ⟨fun hs hd => (h.on_domain hs hd).imp fun a ha => ⟨ha.1, hP a ha.2⟩, h.2.1, h.2.2⟩

theorem Spec.map {P₁ : γ → Prop} {r : R γ} (f : γ → β) (h : Spec S D r P₁)
    (hP : ∀ a, P₁ a → P (f a)) : Spec S D (r >>= fun a => pure (f a)) P :=
  Spec.seq (P₂ := fun a b => b = f a) h (fun _ => Spec.ok (S := True) (D := True) trivial rfl)
    (fun hs => ⟨hs, trivial⟩) (and_iff_left trivial).symm fun a _ ha hb => hb ▸ hP a ha

theorem Spec.seq_pure {P₁ : γ → Prop} {P₂ : δ → Prop} {r₁ : R γ} {r₂ : R δ} (f : γ → δ → β)
    (h₁ : Spec S₁ D₁ r₁ P₁) (h₂ : Spec S₂ D₂ r₂ P₂) (hS : S → S₁ ∧ S₂) (hD : D ↔ D₁ ∧ D₂)
    (hP : ∀ a b, P₁ a → P₂ b → P (f a b)) :
    Spec S D (r₁ >>= fun a => r₂ >>= fun b => pure (f a b)) P :=
  Spec.seq (P₂ := fun a c => ∃ b, c = f a b ∧ P₂ b) h₁
    (fun a => h₂.map (f a) fun b hb => ⟨b, rfl, hb⟩) hS hD
    fun a _ ha ⟨b, hc, hb⟩ => hc ▸ hP a b ha hb

end spec

section supplied
variable {p : Point ℝ} {e : Expr ℝ}

theorem routes_evalG_ok (hwf : WF e) (hs : Supp p e) (hd : Dom (valOf p) e) :
    evalG realNum p e = .ok (den (valOf p) e) :=
  (evalR_good p e hwf).ok_iff.mpr ⟨hs, hd, rfl⟩

theorem routes_evalG_off (hwf : WF e) (hs : Supp p e) (hnd : ¬ Dom (valOf p) e) :
    evalG realNum p e = .error .domain :=
  ((evalR_good p e hwf).domain_iff hs).mpr hnd

end supplied

def FwdSpec (p : Point ℝ) (x : String) (e : Expr ℝ) (r : R ℝ) : Prop :=
  Spec (Supp p e) (Dom (valOf p) e) r fun d =>
    HasDerivAt (fun t => den (upd (valOf p) x t) e) d (valOf p x)

def FwdSpecL (p : Point ℝ) (x : String) (es : List (Expr ℝ)) (r : R (List ℝ)) : Prop :=
  Spec (SuppList p es) (DomList (valOf p) es) r fun ds =>
    DerivL (es.map fun e t => den (upd (valOf p) x t) e) ds (valOf p x)

/-- The calculus of a unary class `e` with operand `u`: on the set `G` it computes `f`, whose
derivative is `c`. -/
structure UnaryCalc (e u : Expr ℝ) (G : ℝ → Prop) (f c : ℝ → ℝ) : Prop where
  wf : WF u
  dom : ∀ ρ, Dom ρ e ↔ Dom ρ u ∧ G (den ρ u)
  den_eq : ∀ ρ, den ρ e = f (den ρ u)
  deriv : ∀ a, G a → HasDerivAt f (c a) a

theorem UnaryCalc.hasDerivAt {e u : Expr ℝ} {G : ℝ → Prop} {f c : ℝ → ℝ} (C : UnaryCalc e u G f c)
    {ρ : String → ℝ} {x : String} {du : ℝ} (hg : G (den ρ u))
    (hder : HasDerivAt (fun t => den (upd ρ x t) u) du (ρ x)) :
    HasDerivAt (fun t => den (upd ρ x t) e) (c (den ρ u) * du) (ρ x) := by
  have hfun : (fun t => den (upd ρ x t) e) = f ∘ fun t => den (upd ρ x t) u :=
    funext fun t => C.den_eq _
  rw [hfun]
  exact HasDerivAt.comp (ρ x) (by rw [upd_self]; exact C.deriv _ hg) hder

/-- What both numeric differentiation modes need to know about a unary class besides its calculus:
its check tests `G`, and its formula multiplies by `c`. -/
structure ChainRule (p : Point ℝ) (e u : Expr ℝ) (G : ℝ → Prop) [DecidablePred G] (f c : ℝ → ℝ) :
    Prop extends UnaryCalc e u G f c where
  supp : Supp p e ↔ Supp p u
  verify : ∀ a, unaryVerify realNum e a = if G a then .ok () else .error .domain
  formula : Supp p u → Dom (valOf p) u → G (den (valOf p) u) →
    ∀ m, unaryFormula realNum p e m = .ok (c (den (valOf p) u) * m)
  fwd_eq : ∀ x, fwdG realNum p x e = do
    let a ← evalG realNum p u
    unaryVerify realNum e a
    let d ← fwdG realNum p x u
    unaryFormula realNum p e d
  rev_eq : ∀ m acc, revG realNum p e m acc = do
    let a ← evalG realNum p u
    unaryVerify realNum e a
    let m' ← unaryFormula realNum p e m
    revG realNum p u m' acc

theorem fwd_unary_spec {p : Point ℝ} {x : String} {e u : Expr ℝ} {G : ℝ → Prop} [DecidablePred G]
    {f c : ℝ → ℝ} (C : ChainRule p e u G f c) (ih : WF u → FwdSpec p x u (fwdG realNum p x u)) :
    FwdSpec p x e (fwdG realNum p x e) := by
  rw [C.fwd_eq]
  refine Spec.good_bind (evalR_good p u C.wf) C.supp.mp (fun h => ((C.dom _).mp h).1) fun hs hd _ => ?_
  refine Spec.guard (C.verify _) (fun h => ((C.dom _).mp h).2) fun hg => ?_
  obtain ⟨du, hdu, hder⟩ := (ih C.wf).on_domain hs hd
  rw [hdu, R.ok_bind, C.formula hs hd hg]
  exact Spec.ok ((C.dom _).mpr ⟨hd, hg⟩) (C.hasDerivAt hg hder)

section unary
variable {p : Point ℝ} {u : Expr ℝ} {g : Flags}

theorem unaryCalc_neg (hwf : WF (.neg g u)) :
    UnaryCalc (.neg g u) u (fun _ => True) (fun a => -a) (fun _ => -1) where
  wf := hwf
  dom _ := (and_iff_left trivial).symm
  den_eq _ := rfl
  deriv a _ := hasDerivAt_neg' a

theorem chainRule_neg (hwf : WF (.neg g u)) :
    ChainRule p (.neg g u) u (fun _ => True) (fun a => -a) (fun _ => -1) where
  toUnaryCalc := unaryCalc_neg hwf
  supp := Iff.rfl
  verify _ := rfl
  formula _ _ _ m := by simp [unaryFormula, rmonad]
  fwd_eq _ := by simp only [fwdG]
  rev_eq _ _ := by simp only [revG]

theorem unaryCalc_recip (hwf : WF (.recip g u)) :
    UnaryCalc (.recip g u) u (fun a => a ≠ 0) (fun a => a⁻¹) (fun a => -(a ^ 2)⁻¹) where
  wf := hwf
  dom _ := Iff.rfl
  den_eq _ := rfl
  deriv _ := hasDerivAt_inv

theorem chainRule_recip (hwf : WF (.recip g u)) :
    ChainRule p (.recip g u) u (fun a => a ≠ 0) (fun a => a⁻¹) (fun a => -(a ^ 2)⁻¹) where
  toUnaryCalc := unaryCalc_recip hwf
  supp := Iff.rfl
  verify := verifyReciprocal_real
  formula hs hd ha m := by
    simp only [unaryFormula, routes_evalG_ok (e := u) hwf hs hd, mfNthPower_real one_le_two,
      mfDivide_real (pow_ne_zero 2 ha), mfNegation_real, rmonad]
    congr 1
    field_simp
  fwd_eq _ := by simp only [fwdG]
  rev_eq _ _ := by simp only [revG]

theorem unaryCalc_npow {n : ℕ} (hwf : WF (.npow g u n)) :
    UnaryCalc (.npow g u n) u (fun _ => True) (fun a => a ^ n) (fun a => n * a ^ (n - 1)) where
  wf := hwf.2
  dom _ := (and_iff_left trivial).symm
  den_eq _ := rfl
  deriv a _ := by simpa using hasDerivAt_pow n a

theorem chainRule_npow {n : ℕ} (hwf : WF (.npow g u n)) :
    ChainRule p (.npow g u n) u (fun _ => True) (fun a => a ^ n) (fun a => n * a ^ (n - 1)) where
  toUnaryCalc := unaryCalc_npow hwf
  supp := Iff.rfl
  verify _ := rfl
  formula hs hd _ m := by
    have hev := routes_evalG_ok hwf.2 hs hd
    by_cases h1 : n = 1
    · subst h1; simp [unaryFormula, rmonad]
    · have h2 : 1 ≤ n - 1 := by have := hwf.1; omega
      simp [unaryFormula, h1, hev, mfNthPower_real h2, rmonad, mul_assoc]
  fwd_eq _ := by simp only [fwdG]
  rev_eq _ _ := by simp only [revG]

theorem unaryCalc_nroot {n : ℕ} (hwf : WF (.nroot g u n)) :
    UnaryCalc (.nroot g u n) u (RootOK n) (sroot n)
      (fun a => if n = 1 then 1 else (n * sroot n a ^ (n - 1))⁻¹) where
  wf := hwf.2
  dom _ := Iff.rfl
  den_eq _ := rfl
  deriv a hok := by
    by_cases h1 : n = 1
    · subst h1
      simpa only [if_true, show sroot 1 = id from funext sroot_one] using hasDerivAt_id a
    · simpa only [h1, if_false] using
        hasDerivAt_sroot hwf.1 hok (hok.1 (by have := hwf.1; omega))

theorem chainRule_nroot {n : ℕ} (hwf : WF (.nroot g u n)) :
    ChainRule p (.nroot g u n) u (RootOK n) (sroot n)
      (fun a => if n = 1 then 1 else (n * sroot n a ^ (n - 1))⁻¹) where
  toUnaryCalc := unaryCalc_nroot hwf
  supp := Iff.rfl
  verify := verifyNthRoot_real n
  formula hs hd hok m := by
    by_cases h1 : n = 1
    · subst h1; simp [unaryFormula, rmonad]
    · have hev : evalG realNum p (.nroot g u n) = .ok (sroot n (den (valOf p) u)) :=
        routes_evalG_ok hwf hs ⟨hd, hok⟩
      have hn1 : 1 ≤ n - 1 := by have := hwf.1; omega
      have hne : (n : ℝ) * sroot n (den (valOf p) u) ^ (n - 1) ≠ 0 :=
        mul_ne_zero (Nat.cast_ne_zero.mpr (by omega))
          (pow_ne_zero _ (sroot_ne_zero _ (hok.1 (by omega))))
      simp only [unaryFormula, h1, if_false, hev, mfNthPower_real hn1, mfMultiply_real,
        List.prod_cons, List.prod_nil, mul_one, realNum_ofNat, mfDivide_real hne, rmonad]
      congr 1
      rw [div_eq_mul_inv, mul_comm]
  fwd_eq _ := by simp only [fwdG]
  rev_eq _ _ := by simp only [revG]

theorem unaryCalc_exp {b : ℝ} (hwf : WF (.exp g u b)) :
    UnaryCalc (.exp g u b) u (fun _ => True) (fun a => Real.exp (a * Real.log b))
      (fun a => Real.log b * Real.exp (a * Real.log b)) where
  wf := hwf.2
  dom _ := (and_iff_left trivial).symm
  den_eq _ := rfl
  deriv a _ := by
    have := ((hasDerivAt_id a).mul_const (Real.log b)).exp
    simpa [mul_comm] using this

theorem chainRule_exp {b : ℝ} (hwf : WF (.exp g u b)) :
    ChainRule p (.exp g u b) u (fun _ => True) (fun a => Real.exp (a * Real.log b))
      (fun a => Real.log b * Real.exp (a * Real.log b)) where
  toUnaryCalc := unaryCalc_exp hwf
  supp := Iff.rfl
  verify _ := rfl
  formula hs hd _ m := by
    have hev : evalG realNum p (.exp g u b) = .ok (Real.exp (den (valOf p) u * Real.log b)) :=
      routes_evalG_ok hwf hs hd
    by_cases h1 : b = 1
    · subst h1; simp [unaryFormula, rmonad]
    by_cases he : b = Real.exp 1
    · subst he
      simp [unaryFormula, h1, hev, rmonad]
    · simp [unaryFormula, h1, he, hev, rmonad, mfLogarithm_base_e hwf.1, mul_assoc]
  fwd_eq _ := by simp only [fwdG]
  rev_eq _ _ := by simp only [revG]

theorem unaryCalc_log {b : ℝ} (hwf : WF (.log g u b)) :
    UnaryCalc (.log g u b) u (fun a => 0 < a) (fun a => Real.log a / Real.log b)
      (fun a => (a * Real.log b)⁻¹) where
  wf := hwf.2.2
  dom _ := Iff.rfl
  den_eq _ := rfl
  deriv a ha := by
    simpa only [mul_inv, div_eq_mul_inv] using
      (Real.hasDerivAt_log ha.ne').div_const (Real.log b)

theorem chainRule_log {b : ℝ} (hwf : WF (.log g u b)) :
    ChainRule p (.log g u b) u (fun a => 0 < a) (fun a => Real.log a / Real.log b)
      (fun a => (a * Real.log b)⁻¹) where
  toUnaryCalc := unaryCalc_log hwf
  supp := Iff.rfl
  verify := verifyLogarithm_real
  formula hs hd ha m := by
    have hev := routes_evalG_ok hwf.2.2 hs hd
    have hlb := Real.log_ne_zero_of_pos_of_ne_one hwf.1 hwf.2.1
    by_cases he : b = Real.exp 1
    · subst he
      simp only [unaryFormula, hev, realNum_eq, realNum_e, decide_true, if_true,
        mfDivide_real ha.ne', Real.log_exp, mul_one, rmonad]
      congr 1
      rw [div_eq_mul_inv, mul_comm]
    · simp only [unaryFormula, hev, realNum_eq, realNum_e, he, decide_false, Bool.false_eq_true,
        if_false, mfLogarithm_base_e hwf.1, mfMultiply_real, List.prod_cons, List.prod_nil, mul_one,
        mfDivide_real (mul_ne_zero hlb ha.ne'), rmonad]
      congr 1
      rw [div_eq_mul_inv, mul_comm, mul_comm (Real.log b)]
  fwd_eq _ := by simp only [fwdG]
  rev_eq _ _ := by simp only [revG]

theorem unaryCalc_cos (hwf : WF (.cos g u)) :
    UnaryCalc (.cos g u) u (fun _ => True) Real.cos (fun a => -Real.sin a) where
  wf := hwf
  dom _ := (and_iff_left trivial).symm
  den_eq _ := rfl
  deriv a _ := Real.hasDerivAt_cos a

theorem chainRule_cos (hwf : WF (.cos g u)) :
    ChainRule p (.cos g u) u (fun _ => True) Real.cos (fun a => -Real.sin a) where
  toUnaryCalc := unaryCalc_cos hwf
  supp := Iff.rfl
  verify _ := rfl
  formula hs hd _ m := by simp [unaryFormula, routes_evalG_ok (e := u) hwf hs hd, rmonad, mfSine]
  fwd_eq _ := by simp only [fwdG]
  rev_eq _ _ := by simp only [revG]

theorem unaryCalc_sin (hwf : WF (.sin g u)) :
    UnaryCalc (.sin g u) u (fun _ => True) Real.sin Real.cos where
  wf := hwf
  dom _ := (and_iff_left trivial).symm
  den_eq _ := rfl
  deriv a _ := Real.hasDerivAt_sin a

theorem chainRule_sin (hwf : WF (.sin g u)) :
    ChainRule p (.sin g u) u (fun _ => True) Real.sin Real.cos where
  toUnaryCalc := unaryCalc_sin hwf
  supp := Iff.rfl
  verify _ := rfl
  formula hs hd _ m := by simp [unaryFormula, routes_evalG_ok (e := u) hwf hs hd, rmonad, mfCosine]
  fwd_eq _ := by simp only [fwdG]
  rev_eq _ _ := by simp only [revG]

end unary

section calculus
variable {ρ : String → ℝ} {x : String} {g : Flags} {l r : Expr ℝ} {dl dr : ℝ}

/-- the quotient rule, with the derivative in the form both differentiation codes build it -/
theorem hasDerivAt_den_div (hl : HasDerivAt (fun t => den (upd ρ x t) l) dl (ρ x))
    (hr : HasDerivAt (fun t => den (upd ρ x t) r) dr (ρ x)) (hz : den ρ r ≠ 0) :
    HasDerivAt (fun t => den (upd ρ x t) (.div g l r))
      (dl / den ρ r + -(den ρ l / den ρ r ^ 2) * dr) (ρ x) := by
  have h := hl.div hr (by simpa using hz)
  simp only [upd_self] at h
  exact h.congr_deriv (by field_simp; ring)

/-- `l ^ r = exp (r · log l)` for a positive base: the power rule in both arguments -/
theorem hasDerivAt_den_pow (hl : HasDerivAt (fun t => den (upd ρ x t) l) dl (ρ x))
    (hr : HasDerivAt (fun t => den (upd ρ x t) r) dr (ρ x)) (hpos : 0 < den ρ l) :
    HasDerivAt (fun t => den (upd ρ x t) (.pow g l r))
      (den ρ r * (Real.exp ((den ρ r - 1) * Real.log (den ρ l)) * dl) +
        Real.log (den ρ l) * (den ρ (.pow g l r) * dr)) (ρ x) := by
  have h := (hr.fun_mul (hl.log (by simpa using hpos.ne'))).exp
  simp only [upd_self] at h
  have hpw : Real.exp ((den ρ r - 1) * Real.log (den ρ l)) =
      Real.exp (den ρ r * Real.log (den ρ l)) / den ρ l := by
    rw [sub_mul, one_mul, Real.exp_sub, Real.exp_log hpos]
  simp only [den, hpw]
  exact h.congr_deriv (by field_simp; ring)

end calculus

section binary
variable {p : Point ℝ} {l r : Expr ℝ} {a b : ℝ}

theorem divFormulaLeft_real (he2 : evalG realNum p r = .ok b) (hb : b ≠ 0) (m : ℝ) :
    divFormulaLeft realNum p l r m = .ok (m / b) := by
  simp only [divFormulaLeft, he2, mfDivide_real hb, rmonad]

theorem divFormulaRight_real (he1 : evalG realNum p l = .ok a) (he2 : evalG realNum p r = .ok b)
    (hb : b ≠ 0) (m : ℝ) : divFormulaRight realNum p l r m = .ok (-(a / b ^ 2) * m) := by
  simp only [divFormulaRight, he1, he2, mfNthPower_real one_le_two, mfDivide_real (pow_ne_zero 2 hb),
    mfNegation_real, mfMultiply_real, List.prod_cons, List.prod_nil, mul_one, rmonad]

theorem powFormulaLeft_real (he1 : evalG realNum p l = .ok a) (he2 : evalG realNum p r = .ok b)
    (ha : 0 < a) (m : ℝ) : powFormulaLeft realNum p l r m = .ok (b * (a ^ (b - 1) * m)) := by
  simp only [powFormulaLeft, he1, he2, mfPower_pos ha, mfMinus_real, realNum_one, mfMultiply_real,
    List.prod_cons, List.prod_nil, mul_one, rmonad]

theorem powFormulaRight_real {self : Expr ℝ} {s : ℝ} (he1 : evalG realNum p l = .ok a)
    (hes : evalG realNum p self = .ok s) (ha : 0 < a) (m : ℝ) :
    powFormulaRight realNum p self l m = .ok (Real.log a * (s * m)) := by
  simp only [powFormulaRight, he1, hes, realNum_e, mfLogarithm_base_e ha, mfMultiply_real,
    List.prod_cons, List.prod_nil, mul_one, rmonad]

end binary

/-- the part of `Power._numeric_partial` after the short-cut test -/
noncomputable def powGeneralBlock (p : Point ℝ) (x : String) (g : Flags) (l r : Expr ℝ) : R ℝ := do
  let a ← evalG realNum p l
  let b ← evalG realNum p r
  verifyPower realNum a b
  let dl ← fwdG realNum p x l
  let dr ← fwdG realNum p x r
  let t1 ← powFormulaLeft realNum p l r dl
  let t2 ← powFormulaRight realNum p (.pow g l r) l dr
  pure (realNum.add t1 t2)

theorem fwdG_pow_eq (p : Point ℝ) (x : String) (g : Flags) (l r : Expr ℝ) :
    fwdG realNum p x (.pow g l r) =
      (powShortcut realNum p l >>= fun b =>
        if b then (evalG realNum p (.pow g l r) >>= fun _ => pure realNum.zero)
        else powGeneralBlock p x g l r) := by
  simp only [fwdG, powGeneralBlock]

theorem pow_general (p : Point ℝ) (x : String) (g : Flags) (l r : Expr ℝ) (hwf : WF (.pow g l r))
    (ih1 : FwdSpec p x l (fwdG realNum p x l)) (ih2 : FwdSpec p x r (fwdG realNum p x r)) :
    FwdSpec p x (.pow g l r) (powGeneralBlock p x g l r) := by
  refine Spec.good_bind (evalR_good p l hwf.1) (·.1) (·.1) fun hs1 hd1 he1 => ?_
  refine Spec.good_bind (evalR_good p r hwf.2) (·.2) (·.2.1) fun hs2 hd2 he2 => ?_
  refine Spec.guard (verifyPower_real _ _) (·.2.2) fun hpos => ?_
  obtain ⟨dl, hdl, hderl⟩ := ih1.on_domain hs1 hd1
  obtain ⟨dr, hdr, hderr⟩ := ih2.on_domain hs2 hd2
  have hes := routes_evalG_ok hwf ⟨hs1, hs2⟩ ⟨hd1, hd2, hpos⟩
  simp only [hdl, hdr, powFormulaLeft_real he1 he2 hpos, powFormulaRight_real he1 hes hpos,
    realNum_add, rmonad]
  refine Spec.ok ⟨hd1, hd2, hpos⟩ ?_
  -- the numeric formula raises the base to the real power `r - 1`: an exponential, the base being > 0
  rw [Real.rpow_def_of_pos hpos, mul_comm (Real.log _)]
  exact hasDerivAt_den_pow hderl hderr hpos

/-- `Power`'s short-cut test in front of both differentiation modes: `A` is what is done when the
base is the constant one, `B` the general rule -/
theorem Spec.shortcut {S D : Prop} {P : β → Prop} {A B : R β} {p : Point ℝ} {l : Expr ℝ}
    (hwf : WF l) (hS : S → Supp p l) (hD : D → Dom (valOf p) l)
    (hA : l.vars = [] → den (valOf p) l = 1 → powShortcut realNum p l = .ok true → Spec S D A P)
    (hB : powShortcut realNum p l = .ok false → Spec S D B P) :
    Spec S D (powShortcut realNum p l >>= fun b => if b then A else B) P := by
  by_cases hv : l.vars.isEmpty
  · have hsc : powShortcut realNum p l =
        evalG realNum p l >>= fun a => pure (decide (a = 1)) := by
      simp only [powShortcut, hv, if_true, realNum_eq, realNum_one]
    rw [hsc, bind_assoc]
    refine Spec.good_bind (evalR_good p l hwf) hS hD fun _ _ he => ?_
    rw [he] at hsc
    simp only [rmonad] at hsc ⊢
    by_cases hone : den (valOf p) l = 1
    · simp only [hone, decide_true] at hsc
      simpa only [hone, decide_true, if_true] using hA (List.isEmpty_iff.mp hv) hone hsc
    · simp only [hone, decide_false] at hsc
      simpa only [hone, decide_false, Bool.false_eq_true, if_false] using hB hsc
  · have hsc : powShortcut realNum p l = .ok false := by
      simp only [powShortcut, hv, Bool.false_eq_true, if_false, rmonad]
    simpa only [hsc, R.ok_bind, Bool.false_eq_true, if_false] using hB hsc

theorem fwdListG_cons_ok {α : Type} {N : Num α} {p : Point α} {y : String} {e : Expr α}
    {es : List (Expr α)} {ds : List α} (h : fwdListG N p y (e :: es) = .ok ds) :
    ∃ d ds', fwdG N p y e = .ok d ∧ fwdListG N p y es = .ok ds' ∧ ds = d :: ds' := by
  simp only [fwdListG] at h
  obtain ⟨d, h1, h⟩ := R.bind_eq_ok_iff.mp h
  obtain ⟨ds', h2, h⟩ := R.bind_eq_ok_iff.mp h
  exact ⟨d, ds', h1, h2, (Except.ok.inj h).symm⟩

theorem fwdListG_length {α : Type} (N : Num α) (p : Point α) (x : String) :
    ∀ (es : List (Expr α)) {ds : List α}, fwdListG N p x es = .ok ds → ds.length = es.length
  | [], _, h => by cases h; rfl
  | e :: es, _, h => by
    obtain ⟨d, ds', _, hds, rfl⟩ := fwdListG_cons_ok h
    simp only [List.length_cons, fwdListG_length N p x es hds]

private theorem fwdR_spec_list_aux (p : Point ℝ) (x : String) (es : List (Expr ℝ))
    (h : ∀ e ∈ es, WF e → FwdSpec p x e (fwdG realNum p x e)) :
    WFList es → FwdSpecL p x es (fwdListG realNum p x es) := by
  induction es with
  | nil => exact fun _ => Spec.ok trivial List.Forall₂.nil
  | cons e es ih =>
    intro hwf
    simp only [fwdListG]
    exact Spec.seq_pure List.cons (h e List.mem_cons_self hwf.1)
      (ih (fun a ha => h a (List.mem_cons_of_mem _ ha)) hwf.2) id Iff.rfl
      fun _ _ hd hds => List.Forall₂.cons hd hds

theorem fwdR_spec (p : Point ℝ) (x : String) (e : Expr ℝ) (hwf : WF e) :
    FwdSpec p x e (fwdG realNum p x e) := by
  induction e using Expr.ind with
  | const f v =>
    simp only [fwdG, realNum_zero, rmonad]
    exact Spec.ok trivial (by simpa only [den] using hasDerivAt_const (valOf p x) v)
  | var f y =>
    simp only [fwdG, realNum_zero, realNum_one, rmonad]
    split
    · next hy =>
      rw [beq_iff_eq] at hy
      subst hy
      refine Spec.ok trivial ?_
      simpa only [den, upd_same] using hasDerivAt_id' (valOf p y)
    · next hy =>
      refine Spec.ok trivial ?_
      simpa only [den, upd_other _ _ (ne_of_beq_false (Bool.not_eq_true _ ▸ hy))] using
        hasDerivAt_const (valOf p x) (valOf p y)
  | add f as ih =>
    simp only [fwdG]
    refine (fwdR_spec_list_aux p x as ih hwf).map _ fun ds hder => ?_
    simpa [den, denList_eq_map, Function.comp_def] using hasDerivAt_list_sum hder
  | mul f as ih =>
    simp only [fwdG]
    refine Spec.good_bind (evalR_good_list p as hwf) id id fun hs hd _ => ?_
    obtain ⟨ds, hds, hder⟩ := (fwdR_spec_list_aux p x as ih hwf).on_domain hs hd
    simp only [hds, rmonad]
    refine Spec.ok hd ?_
    rw [mulTerms_sum ds _ (by rw [fwdListG_length _ _ _ _ hds, denList_eq_map, List.length_map])]
    simpa [den, denList_eq_map, Function.comp_def] using hasDerivAt_list_prod hder
  | minus f l r ihl ihr =>
    simp only [fwdG]
    exact Spec.seq_pure _ (ihl hwf.1) (ihr hwf.2) id Iff.rfl fun _ _ hl hr => hl.fun_sub hr
  | div f l r ihl ihr =>
    simp only [fwdG]
    refine Spec.good_bind (evalR_good p l hwf.1) (·.1) (·.1) fun hs1 hd1 he1 => ?_
    refine Spec.good_bind (evalR_good p r hwf.2) (·.2) (·.2.1) fun hs2 hd2 he2 => ?_
    refine Spec.guard (verifyDivide_real _ _) (·.2.2) fun hz => ?_
    obtain ⟨dl, hdl, hderl⟩ := (ihl hwf.1).on_domain hs1 hd1
    obtain ⟨dr, hdr, hderr⟩ := (ihr hwf.2).on_domain hs2 hd2
    simp only [hdl, hdr, divFormulaLeft_real he2 hz, divFormulaRight_real he1 he2 hz, mfAdd_real,
      List.sum_cons, List.sum_nil, add_zero, rmonad]
    exact Spec.ok ⟨hd1, hd2, hz⟩ (hasDerivAt_den_div hderl hderr hz)
  | pow g l r ihl ihr =>
    rw [fwdG_pow_eq]
    refine Spec.shortcut hwf.1 (·.1) (·.1) (fun hv hone _ => ?_)
      fun _ => pow_general p x g l r hwf (ihl hwf.1) (ihr hwf.2)
    -- the base is the constant one: evaluate the node itself, answer 0
    refine Spec.good_bind (evalR_good p _ hwf) id id fun _ hd _ => Spec.ok hd ?_
    have : (fun t => den (upd (valOf p) x t) (.pow g l r)) = fun _ => 1 := by
      funext t
      simp [den, den_upd_of_vars_nil (valOf p) x l hv t, hone]
    rw [realNum_zero, this]
    exact hasDerivAt_const _ _
  | neg g u ih => exact fwd_unary_spec (chainRule_neg hwf) ih
  | recip g u ih => exact fwd_unary_spec (chainRule_recip hwf) ih
  | npow g u n ih => exact fwd_unary_spec (chainRule_npow hwf) ih
  | nroot g u n ih => exact fwd_unary_spec (chainRule_nroot hwf) ih
  | exp g u b ih => exact fwd_unary_spec (chainRule_exp hwf) ih
  | log g u b ih => exact fwd_unary_spec (chainRule_log hwf) ih
  | cos g u ih => exact fwd_unary_spec (chainRule_cos hwf) ih
  | sin g u ih => exact fwd_unary_spec (chainRule_sin hwf) ih

section supplied
variable {p : Point ℝ} {e : Expr ℝ}

theorem routes_fwdG_off (x : String) (hwf : WF e) (hs : Supp p e) (hnd : ¬ Dom (valOf p) e) :
    fwdG realNum p x e = .error .domain :=
  (fwdR_spec p x e hwf).off_domain hs hnd

theorem fwdG_hasDerivAt {x : String} {d : ℝ} (hwf : WF e) (hs : Supp p e) (hd : Dom (valOf p) e)
    (h : fwdG realNum p x e = .ok d) :
    HasDerivAt (fun t => den (upd (valOf p) x t) e) d (valOf p x) := by
  obtain ⟨d', h', hder⟩ := (fwdR_spec p x e hwf).on_domain hs hd
  cases h.symm.trans h'
  exact hder

end supplied

end Smooth
