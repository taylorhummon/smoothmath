/-
Proofs/MeasureRules — each of the 46 rewrite rules strictly decreases the measure `mu`, whatever the
flags inside the expression are (so: in every context, by the congruence lemma of Proofs/Measure).
-/
import Smooth.Proofs.MeasureDefs

namespace Smooth
open Expr
variable {α : Type}

/-! ### ways to establish `MuLt`

Every rule but one decreases `A`, `B` or the weight.  The hypotheses on `A` and `B` have a default
proof: unfold `total` at the two concrete nodes and let `omega` compare.  So `exact .ofA` says that the
rule removes a `Power`, `Minus` or `Divide` node, `exact .ofB` that it keeps `A` and removes a node
counted in `B`, and `exact .ofW h` that only the weights (`h`) need an argument. -/

theorem MuLt.ofA {e' e : Expr α}
    (hA : cA e' < cA e := by simp only [cA, total, totalList, rootA]; omega) : MuLt e' e :=
  LexLt.ofA hA

theorem MuLt.ofB {e' e : Expr α}
    (hA : cA e' ≤ cA e := by simp only [cA, total, totalList, rootA]; omega)
    (hB : cB e' < cB e := by simp only [cB, total, totalList, rootB]; omega) : MuLt e' e :=
  LexLt.ofB hA hB

theorem MuLt.ofW {e' e : Expr α} (hW : wt e' < wt e)
    (hA : cA e' ≤ cA e := by simp only [cA, total, totalList, rootA]; omega)
    (hB : cB e' ≤ cB e := by simp only [cB, total, totalList, rootB]; omega) : MuLt e' e :=
  LexLt.ofW hA hB hW

theorem mkConst_lt (v : α) {e : Expr α} (hc : isConstNode e = false) (hv : ∀ f x, e ≠ .var f x) :
    MuLt (mkConst v) e := by
  cases e with
  | const => cases hc
  | var f x => exact absurd rfl (hv f x)
  | minus | div | pow => exact .ofA
  | npow | nroot | exp | log => exact .ofB
  | add | mul => exact .ofW (by simp only [wt]; omega)
  | neg _ u | cos _ u => exact .ofW (by have := two_le_wt u; simp only [wt]; omega)
  | recip _ u | sin _ u =>
    exact .ofW (by have := Nat.mul_le_mul (two_le_wt u) (two_le_wt u); simp only [wt]; omega)

theorem three_mul_sq (x : Nat) : 3 * x * (3 * x) = 9 * (x * x) := by
  rw [Nat.mul_mul_mul_comm]

theorem sq_add_gt (b : Nat) {y : Nat} (hy : 0 < y) : b * b + 2 * b < (b + y) * (b + y) := by
  have := Nat.mul_self_le_mul_self (show b + 1 ≤ b + y by omega)
  rw [add_mul_self_eq b 1] at this
  omega

/-- the weight of `Reciprocal` over a node of weight `2 ^ x` is below `2 ^ m` once `m ≥ 3 x` -/
theorem recip_two_pow_lt {x m : Nat} (hx : 2 ≤ x) (hm : 3 * x ≤ m) :
    2 ^ x * 2 ^ x + 2 * 2 ^ x < 2 ^ m := by
  have h4 : 2 ^ 2 ≤ 2 ^ x := Nat.pow_le_pow_right (by omega) hx
  have h1 := Nat.mul_le_mul_right (2 ^ x) h4
  have h2 := Nat.mul_le_mul_right (2 ^ x * 2 ^ x) h4
  have h3 : 2 ^ (x + x + x) ≤ 2 ^ m := Nat.pow_le_pow_right (by omega) (by omega)
  rw [Nat.pow_add, Nat.pow_add, Nat.mul_assoc] at h3
  omega

theorem sum_map_mul {β : Type} (a : Nat) (f : β → Nat) (l : List β) :
    (l.map fun x => a * f x).sum = a * (l.map f).sum := by
  induction l with
  | nil => rfl
  | cons x xs ih => simp only [List.map_cons, List.sum_cons, ih, Nat.mul_add]

theorem sum_filter_le (p : Expr α → Bool) (f : Expr α → Nat) (as : List (Expr α)) :
    ((as.filter p).map f).sum ≤ (as.map f).sum := by
  induction as with
  | nil => exact Nat.le_refl _
  | cons e es ih =>
    rw [List.filter_cons]
    split <;> simp only [List.map_cons, List.sum_cons] <;> omega

theorem sum_filter_lt (p : Expr α → Bool) (f : Expr α → Nat) (hpos : ∀ e, 0 < f e)
    {as : List (Expr α)} (h : ∃ a ∈ as, p a = false) :
    ((as.filter p).map f).sum < (as.map f).sum := by
  induction as with
  | nil => exact nomatch h
  | cons e es ih =>
    have hle := sum_filter_le p f es
    have := hpos e
    rw [List.filter_cons]
    split
    · next hp =>
      obtain ⟨a, ha, hpa⟩ := h
      rcases List.mem_cons.mp ha with rfl | ha
      · rw [hp] at hpa; cases hpa
      · have := ih ⟨a, ha, hpa⟩
        simp only [List.map_cons, List.sum_cons]; omega
    · simp only [List.map_cons, List.sum_cons]; omega

theorem two_mul_length_le_sum_wt (l : List (Expr α)) : 2 * l.length ≤ (l.map wt).sum := by
  induction l with
  | nil => exact Nat.le_refl _
  | cons x xs ih =>
    have := two_le_wt x
    simp only [List.map_cons, List.sum_cons, List.length_cons]; omega

theorem sum_recip_le (l : List (Expr α)) :
    (l.map fun u => wt u * wt u + 2 * wt u).sum ≤
      (l.map wt).sum * (l.map wt).sum + 2 * (l.map wt).sum := by
  induction l with
  | nil => exact Nat.le_refl _
  | cons x xs ih =>
    simp only [List.map_cons, List.sum_cons]
    rw [add_mul_self_eq]
    omega

/-! ### `Add` and `Multiply` nodes

The rules of `Add` and `Multiply` rewrite the operand list and keep the node.  The node adds nothing
to `A` and `B` and 3 to the weight, so it is the operand lists that are compared. -/

theorem nary_lt {as' as : List (Expr α)} (f : Flags)
    (hA : (as'.map (total rootA)).sum ≤ (as.map (total rootA)).sum)
    (hB : (as'.map (total rootB)).sum ≤ (as.map (total rootB)).sum)
    (hW : (as'.map wt).sum < (as.map wt).sum ∨
      (as'.map (total rootB)).sum < (as.map (total rootB)).sum) :
    MuLt (mkAdd as') (.add f as) ∧ MuLt (mkMul as') (.mul f as) := by
  simp only [← totalList_eq_sum, ← wtList_eq_sum] at hA hB hW
  unfold MuLt LexLt
  simp only [cA, cB, total, rootA, rootB, wt]
  omega

theorem flatten_lt {sel : Expr α → Option (List (Expr α))}
    (hsel : ∀ e inner, sel e = some inner → ∃ g, e = .add g inner ∨ e = .mul g inner)
    {as as' : List (Expr α)} (h : spliceFirst sel as = some as') (f : Flags) :
    MuLt (mkAdd as') (.add f as) ∧ MuLt (mkMul as') (.mul f as) := by
  have key : ∀ e inner, sel e = some inner →
      total rootA e = (inner.map (total rootA)).sum + 0 ∧
        total rootB e = (inner.map (total rootB)).sum + 0 ∧ wt e = (inner.map wt).sum + 3 := by
    intro e inner he
    obtain ⟨g, rfl | rfl⟩ := hsel e inner he <;>
      exact ⟨by rw [total, totalList_eq_sum, Nat.add_comm]; rfl,
        by rw [total, totalList_eq_sum, Nat.add_comm]; rfl, by rw [wt, wtList_eq_sum]⟩
  have hA := spliceFirst_sum (total rootA) 0 (fun e inner he => (key e inner he).1) h
  have hB := spliceFirst_sum (total rootB) 0 (fun e inner he => (key e inner he).2.1) h
  have hW := spliceFirst_sum wt 3 (fun e inner he => (key e inner he).2.2) h
  exact nary_lt f (by omega) (by omega) (.inl (by omega))

theorem filter_lt (p : Expr α → Bool) {as : List (Expr α)} (h : ∃ a ∈ as, p a = false) (f : Flags) :
    MuLt (mkAdd (as.filter p)) (.add f as) ∧ MuLt (mkMul (as.filter p)) (.mul f as) :=
  nary_lt f (sum_filter_le p _ as) (sum_filter_le p _ as)
    (.inl (sum_filter_lt p wt (fun e => by have := two_le_wt e; omega) h))

theorem consts_lt {as : List (Expr α)} (h : 1 < (as.filterMap asConst).length) (v : α) (f : Flags) :
    MuLt (mkAdd (as.filter (fun a => (asConst a).isNone) ++ [mkConst v])) (.add f as) ∧
      MuLt (mkMul (as.filter (fun a => (asConst a).isNone) ++ [mkConst v])) (.mul f as) := by
  have key : ∀ (m : Expr α → Nat) (k : Nat), (∀ g w, m (.const g w) = k) →
      (as.map m).sum = ((as.filter fun a => (asConst a).isNone).map m).sum +
        k * (as.filterMap asConst).length := by
    intro m k hm
    rw [sum_filter_filterMap asConst m (fun _ => k) (fun e w he => by
      obtain ⟨g, rfl⟩ := asConst_some_iff.mp he
      exact hm g w) as, sum_map_const]
  have hA := key (total rootA) 0 (fun _ _ => rfl)
  have hB := key (total rootB) 0 (fun _ _ => rfl)
  have hW := key wt 2 (fun _ _ => by rw [wt])
  refine nary_lt f ?_ ?_ (.inl ?_) <;>
    simp only [List.map_append, List.sum_append, List.map_cons, List.map_nil, List.sum_cons,
      List.sum_nil, total, rootA, rootB, wt] <;> omega

/-- the four consolidation rules: members and rebuilt groups are `B`-nodes (weight 1 in `B`, none in
`A`) over the member's operand resp. over an n-ary node of the group's operands -/
theorem consolidate_lt {κ : Type} {sel : Expr α → Option (κ × Expr α)} {eq : κ → κ → Bool}
    {build : κ → List (Expr α) → Expr α}
    (hsel : ∀ e k u, sel e = some (k, u) →
      total rootA e = 0 + total rootA u ∧ total rootB e = 1 + total rootB u)
    (hbuild : ∀ k vs, total rootA (build k vs) = 0 + (vs.map (total rootA)).sum ∧
      total rootB (build k vs) = 1 + (vs.map (total rootB)).sum)
    {as as' : List (Expr α)} (h : consolidate sel eq build as = some as') (f : Flags) :
    MuLt (mkAdd as') (.add f as) ∧ MuLt (mkMul as') (.mul f as) := by
  obtain ⟨_, _, hA⟩ := consolidate_sum sel eq build (total rootA) 0
    (fun e k u he => (hsel e k u he).1) (fun k vs => (hbuild k vs).1) as as' h
  obtain ⟨_, _, hB⟩ := consolidate_sum sel eq build (total rootB) 1
    (fun e k u he => (hsel e k u he).2) (fun k vs => (hbuild k vs).2) as as' h
  exact nary_lt f (by omega) (by omega) (.inr (by omega))

theorem rule_decreases (N : Num α) (r : RuleId) {e e' : Expr α} (h : r.apply N e = some e') :
    MuLt e' e := by
  cases r with
  | addFlatten =>
    obtain ⟨f, as, as', rfl, hs, rfl⟩ := ruleAddFlatten_eq_some.mp h
    exact (flatten_lt (fun e inner he => (asAdd_some_iff.mp he).imp fun _ => .inl) hs f).1
  | addZeros =>
    obtain ⟨f, as, rfl, ⟨a, ha, hz⟩, rfl⟩ := ruleAddZeros_eq_some.mp h
    exact (filter_lt _ ⟨a, ha, by rw [hz]; rfl⟩ f).1
  | addLogs =>
    obtain ⟨f, as, as', rfl, hs, rfl⟩ := ruleAddLogs_eq_some.mp h
    refine (consolidate_lt (fun e k u he => ?_) (fun k vs => ?_) hs f).1
    · obtain ⟨g, rfl⟩ := asLog_some_iff.mp he
      exact ⟨rfl, rfl⟩
    · simp only [total, rootA, rootB, totalList_eq_sum, Nat.zero_add, and_self]
  | addConsts =>
    obtain ⟨f, as, rfl, hc, rfl⟩ := ruleAddConsts_eq_some.mp h
    exact (consts_lt hc _ f).1
  | minusToSum =>
    obtain ⟨f, l, r, rfl, rfl⟩ := ruleMinusToSum_eq_some.mp h
    exact .ofA
  | negNeg =>
    obtain ⟨f, g, rfl⟩ := ruleNegNeg_eq_some.mp h
    exact .ofW (by have := two_le_wt e'; simp only [wt]; omega)
  | negSum =>
    obtain ⟨f, g, as, rfl, rfl⟩ := ruleNegSum_eq_some.mp h
    refine LexLt.ofW ?_ ?_ ?_
    · simp only [cA, total, rootA, totalList_eq_sum, List.map_map, Function.comp_def, Nat.zero_add,
        Nat.le_refl]
    · simp only [cB, total, rootB, totalList_eq_sum, List.map_map, Function.comp_def, Nat.zero_add,
        Nat.le_refl]
    · simp only [wt, wtList_eq_sum, List.map_map, Function.comp_def, sum_map_mul]
      omega
  | mulFlatten =>
    obtain ⟨f, as, as', rfl, hs, rfl⟩ := ruleMulFlatten_eq_some.mp h
    exact (flatten_lt (fun e inner he => (asMul_some_iff.mp he).imp fun _ => .inr) hs f).2
  | mulZero =>
    obtain ⟨f, as, rfl, -, rfl⟩ := ruleMulZero_eq_some.mp h
    exact mkConst_lt _ rfl nofun
  | mulOnes =>
    obtain ⟨f, as, rfl, ⟨a, ha, hz⟩, rfl⟩ := ruleMulOnes_eq_some.mp h
    exact (filter_lt _ ⟨a, ha, by rw [hz]; rfl⟩ f).2
  | mulNegs =>
    obtain ⟨f, as, rfl, hne, rfl⟩ := ruleMulNegs_eq_some.mp h
    have key : ∀ (m n : Expr α → Nat), (∀ g u, m (.neg g u) = n u) → (as.map m).sum =
        ((as.filter fun a => (asNeg a).isNone).map m).sum + ((as.filterMap asNeg).map n).sum :=
      fun m n hm => sum_filter_filterMap asNeg m n (fun e u he => by
        obtain ⟨g, rfl⟩ := asNeg_some_iff.mp he
        exact hm g u) as
    have hA := key (total rootA) (total rootA) (fun _ _ => by simp only [total, rootA, Nat.zero_add])
    have hB := key (total rootB) (total rootB) (fun _ _ => by simp only [total, rootB, Nat.zero_add])
    have hW := key wt (fun u => 3 * wt u) (fun _ _ => by rw [wt])
    rw [sum_map_mul] at hW
    have h2 := two_mul_length_le_sum_wt (as.filterMap asNeg)
    have := List.length_pos_iff.mpr hne
    split <;> refine (nary_lt f ?_ ?_ (.inl ?_)).2 <;>
      simp only [List.map_append, List.sum_append, List.map_cons, List.map_nil, List.sum_cons,
        List.sum_nil, total, rootA, rootB, wt] <;> omega
  | mulNPows =>
    obtain ⟨f, as, as', rfl, hs, rfl⟩ := ruleMulNPows_eq_some.mp h
    refine (consolidate_lt (fun e k u he => ?_) (fun k vs => ?_) hs f).2
    · obtain ⟨g, rfl⟩ := asNPow_some_iff.mp he
      exact ⟨rfl, rfl⟩
    · simp only [total, rootA, rootB, totalList_eq_sum, Nat.zero_add, and_self]
  | mulNRoots =>
    obtain ⟨f, as, as', rfl, hs, rfl⟩ := ruleMulNRoots_eq_some.mp h
    refine (consolidate_lt (fun e k u he => ?_) (fun k vs => ?_) hs f).2
    · obtain ⟨g, rfl⟩ := asNRoot_some_iff.mp he
      exact ⟨rfl, rfl⟩
    · simp only [total, rootA, rootB, totalList_eq_sum, Nat.zero_add, and_self]
  | mulExps =>
    obtain ⟨f, as, as', rfl, hs, rfl⟩ := ruleMulExps_eq_some.mp h
    refine (consolidate_lt (fun e k u he => ?_) (fun k vs => ?_) hs f).2
    · obtain ⟨g, rfl⟩ := asExp_some_iff.mp he
      exact ⟨rfl, rfl⟩
    · simp only [total, rootA, rootB, totalList_eq_sum, Nat.zero_add, and_self]
  | mulConsts =>
    obtain ⟨f, as, rfl, hc, rfl⟩ := ruleMulConsts_eq_some.mp h
    exact (consts_lt hc _ f).2
  | divToMul =>
    obtain ⟨f, l, r, rfl, rfl⟩ := ruleDivToMul_eq_some.mp h
    exact .ofA
  | recipRecip =>
    obtain ⟨f, g, rfl⟩ := ruleRecipRecip_eq_some.mp h
    exact .ofW (by have := two_le_wt e'; simp only [wt]; omega)
  | recipNeg =>
    obtain ⟨f, g, u, rfl, rfl⟩ := ruleRecipNeg_eq_some.mp h
    have := Nat.mul_le_mul (two_le_wt u) (two_le_wt u)
    exact .ofW (by simp only [wt, three_mul_sq]; omega)
  | recipProd =>
    obtain ⟨f, g, as, rfl, rfl⟩ := ruleRecipProd_eq_some.mp h
    have := sum_recip_le as
    refine LexLt.ofW ?_ ?_ ?_
    · simp only [cA, total, rootA, totalList_eq_sum, List.map_map, Function.comp_def, Nat.zero_add,
        Nat.le_refl]
    · simp only [cB, total, rootB, totalList_eq_sum, List.map_map, Function.comp_def, Nat.zero_add,
        Nat.le_refl]
    · simp only [wt, wtList_eq_sum, List.map_map, Function.comp_def]
      rw [add_mul_self_eq]
      omega
  | powOne =>
    obtain ⟨f, r, rfl, -⟩ := rulePowOne_eq_some.mp h
    exact .ofA
  | powZero =>
    obtain ⟨f, l, r, rfl, -, rfl⟩ := rulePowZero_eq_some.mp h
    exact .ofA
  | onePow =>
    obtain ⟨f, l, r, rfl, -, rfl⟩ := ruleOnePow_eq_some.mp h
    exact .ofA
  | powNat =>
    obtain ⟨f, l, g, v, k, rfl, -, -, rfl⟩ := rulePowNat_eq_some.mp h
    exact .ofA
  | powNegOne =>
    obtain ⟨f, l, r, rfl, -, rfl⟩ := rulePowNegOne_eq_some.mp h
    exact .ofA
  | powConstBase =>
    obtain ⟨f, g, v, r, rfl, -, -, rfl⟩ := rulePowConstBase_eq_some.mp h
    exact .ofA
  | powPow =>
    obtain ⟨f, g, u, v, w, rfl, rfl⟩ := rulePowPow_eq_some.mp h
    exact .ofA
  | powNegExp =>
    obtain ⟨f, l, g, v, rfl, rfl⟩ := rulePowNegExp_eq_some.mp h
    have := Nat.mul_le_mul (two_le_wt l) (two_le_wt v)
    exact .ofW (by
      simp only [wt]
      exact recip_two_pow_lt (by omega) (by rw [Nat.mul_left_comm]))
  | powRecipBase =>
    obtain ⟨f, g, u, r, rfl, rfl⟩ := rulePowRecipBase_eq_some.mp h
    have hu := two_le_wt u
    have := Nat.mul_le_mul hu (two_le_wt r)
    exact .ofW (by
      simp only [wt]
      refine recip_two_pow_lt (by omega) ?_
      rw [← Nat.mul_assoc]
      exact Nat.mul_le_mul_right _ (by have := Nat.mul_le_mul_right (wt u) hu; omega))
  | npowOne =>
    obtain ⟨f, rfl⟩ := ruleNPowOne_eq_some.mp h
    exact .ofB
  | npowRoot =>
    obtain ⟨f, g, u, m, n, rfl, ⟨rfl, rfl⟩ | ⟨hmn, hg, rfl⟩⟩ := ruleNPowRoot_eq_some.mp h
    · exact .ofB
    · -- `A`, `B` and the weight stay; the degrees are divided by their common divisor, which is not 1
      have hg0 : Nat.gcd m n ≠ 0 := fun h0 => by
        have := Nat.gcd_eq_zero_iff.mp h0
        omega
      have hm := Nat.div_le_self m (Nat.gcd m n)
      have hn := Nat.div_le_self n (Nat.gcd m n)
      have : m / Nat.gcd m n + n / Nat.gcd m n < m + n := by
        rcases Nat.eq_zero_or_pos m with rfl | hm0
        · have := Nat.div_lt_self (n := n) (by omega) (k := Nat.gcd 0 n) (by omega)
          omega
        · have := Nat.div_lt_self hm0 (k := Nat.gcd m n) (by omega)
          omega
      exact LexLt.ofP (by simp only [cA, total, rootA]; omega) (by simp only [cB, total, rootB]; omega)
        (by simp only [wt]; omega) (by simp only [cP, total, rootP]; omega)
  | npowPow =>
    obtain ⟨f, g, u, m, n, rfl, rfl⟩ := ruleNPowPow_eq_some.mp h
    exact .ofB
  | npowNeg =>
    obtain ⟨f, g, u, n, rfl, rfl⟩ := ruleNPowNeg_eq_some.mp h
    have := Nat.mul_le_mul (two_le_wt u) (two_le_wt u)
    split <;> exact .ofW (by simp only [wt, three_mul_sq]; omega)
  | npowRecip =>
    obtain ⟨f, g, u, n, rfl, rfl⟩ := ruleNPowRecip_eq_some.mp h
    have := sq_add_gt (wt u * wt u + wt u) (show 0 < wt u by have := two_le_wt u; omega)
    rw [show wt u * wt u + wt u + wt u = wt u * wt u + 2 * wt u by omega] at this
    exact .ofW (by simp only [wt]; omega)
  | npowExp =>
    obtain ⟨f, g, u, b, n, rfl, rfl⟩ := ruleNPowExp_eq_some.mp h
    exact .ofB
  | nrootOne =>
    obtain ⟨f, rfl⟩ := ruleNRootOne_eq_some.mp h
    exact .ofB
  | nrootPow =>
    obtain ⟨f, g, u, m, n, rfl, rfl⟩ := ruleNRootPow_eq_some.mp h
    have := sq_add_gt (wt u * wt u) (show 0 < wt u by have := two_le_wt u; omega)
    exact .ofW (by simp only [wt]; omega)
  | nrootRoot =>
    obtain ⟨f, g, u, m, n, rfl, rfl⟩ := ruleNRootRoot_eq_some.mp h
    exact .ofB
  | nrootNeg =>
    obtain ⟨f, g, u, n, rfl, -, rfl⟩ := ruleNRootNeg_eq_some.mp h
    have := Nat.mul_le_mul (two_le_wt u) (two_le_wt u)
    exact .ofW (by simp only [wt, three_mul_sq]; omega)
  | nrootRecip =>
    obtain ⟨f, g, u, n, rfl, rfl⟩ := ruleNRootRecip_eq_some.mp h
    have := sq_add_gt (wt u * wt u) (show 0 < 2 * wt u by have := two_le_wt u; omega)
    exact .ofW (by simp only [wt]; omega)
  | expLog =>
    obtain ⟨f, g, b, b', rfl, -⟩ := ruleExpLog_eq_some.mp h
    exact .ofB
  | expNeg =>
    obtain ⟨f, g, u, b, rfl, rfl⟩ := ruleExpNeg_eq_some.mp h
    exact .ofW (by simp only [wt]; exact recip_two_pow_lt (two_le_wt u) (Nat.le_refl _))
  | logExp =>
    obtain ⟨f, g, b, b', rfl, -⟩ := ruleLogExp_eq_some.mp h
    exact .ofB
  | logRecip =>
    obtain ⟨f, g, u, b, rfl, rfl⟩ := ruleLogRecip_eq_some.mp h
    have := Nat.mul_le_mul_right (wt u) (two_le_wt u)
    exact .ofW (by have := two_le_wt u; simp only [wt]; omega)
  | logNPow =>
    obtain ⟨f, g, u, n, b, rfl, -, rfl⟩ := ruleLogNPow_eq_some.mp h
    exact .ofB
  | cosNeg =>
    obtain ⟨f, g, u, rfl, rfl⟩ := ruleCosNeg_eq_some.mp h
    exact .ofW (by have := two_le_wt u; simp only [wt]; omega)
  | sinNeg =>
    obtain ⟨f, g, u, rfl, rfl⟩ := ruleSinNeg_eq_some.mp h
    have := Nat.mul_le_mul (two_le_wt u) (two_le_wt u)
    exact .ofW (by simp only [wt, three_mul_sq]; omega)

end Smooth
