/-
Proofs/SRoot — real-analysis facts about the sign-keeping n-th root `sroot` (Real/Spec.lean): it is
an odd, multiplicative function that really is a root, and commutes with powers and roots.
-/
import Smooth.Real.Spec

namespace Smooth
open Classical

theorem sroot_of_nonneg (n : ℕ) {x : ℝ} (h : 0 ≤ x) : sroot n x = x ^ ((1 : ℝ) / n) := by
  simp [sroot, h]

theorem sroot_of_neg (n : ℕ) {x : ℝ} (h : x < 0) : sroot n x = -((-x) ^ ((1 : ℝ) / n)) := by
  simp [sroot, not_le.mpr h]

theorem sroot_one (a : ℝ) : sroot 1 a = a := by
  unfold sroot
  split <;> simp

theorem sroot_zero {n : ℕ} (hn : 1 ≤ n) : sroot n 0 = 0 := by
  rw [sroot_of_nonneg n le_rfl]
  exact Real.zero_rpow (one_div_ne_zero (Nat.cast_ne_zero.mpr (by omega)))

theorem sroot_one_arg (n : ℕ) : sroot n 1 = 1 := by
  rw [sroot_of_nonneg n zero_le_one]
  exact Real.one_rpow _

theorem sroot_pos (n : ℕ) {x : ℝ} (h : 0 < x) : 0 < sroot n x := by
  rw [sroot_of_nonneg n h.le]
  exact Real.rpow_pos_of_pos h _

theorem sroot_neg_of_neg (n : ℕ) {x : ℝ} (h : x < 0) : sroot n x < 0 := by
  rw [sroot_of_neg n h]
  have : 0 < (-x) ^ ((1 : ℝ) / n) := Real.rpow_pos_of_pos (neg_pos.mpr h) _
  linarith

theorem sroot_ne_zero (n : ℕ) {x : ℝ} (h : x ≠ 0) : sroot n x ≠ 0 := by
  rcases lt_or_gt_of_ne h with h | h
  · exact ne_of_lt (sroot_neg_of_neg n h)
  · exact ne_of_gt (sroot_pos n h)

theorem sroot_nonneg {n : ℕ} {x : ℝ} (h : 0 ≤ x) : 0 ≤ sroot n x := by
  rw [sroot_of_nonneg n h]
  exact Real.rpow_nonneg h _

theorem sroot_nonneg_iff (n : ℕ) {x : ℝ} : 0 ≤ sroot n x ↔ 0 ≤ x := by
  constructor
  · intro h
    by_contra hx
    exact absurd h (not_le.mpr (sroot_neg_of_neg n (not_le.mp hx)))
  · exact sroot_nonneg

/-- for even `n` too: the formula does not look at the parity -/
theorem sroot_neg {n : ℕ} (hn : 1 ≤ n) (x : ℝ) : sroot n (-x) = -sroot n x := by
  rcases lt_trichotomy x 0 with h | h | h
  · rw [sroot_of_neg n h, sroot_of_nonneg n (neg_pos.mpr h).le, neg_neg]
  · subst h; simp [sroot_zero hn]
  · rw [sroot_of_neg n (neg_lt_zero.mpr h), sroot_of_nonneg n h.le, neg_neg]

theorem sroot_inv {n : ℕ} (hn : 1 ≤ n) (x : ℝ) : sroot n x⁻¹ = (sroot n x)⁻¹ := by
  rcases lt_trichotomy x 0 with h | h | h
  · have h' : x⁻¹ < 0 := inv_lt_zero.mpr h
    rw [sroot_of_neg n h, sroot_of_neg n h', neg_inv, Real.inv_rpow (neg_pos.mpr h).le, inv_neg]
  · subst h; simp [sroot_zero hn]
  · have h' : 0 < x⁻¹ := inv_pos.mpr h
    rw [sroot_of_nonneg n h.le, sroot_of_nonneg n h'.le, Real.inv_rpow h.le]

theorem sroot_mul_of_nonneg (n : ℕ) {x y : ℝ} (hx : 0 ≤ x) (hy : 0 ≤ y) :
    sroot n (x * y) = sroot n x * sroot n y := by
  rw [sroot_of_nonneg n hx, sroot_of_nonneg n hy, sroot_of_nonneg n (mul_nonneg hx hy),
    Real.mul_rpow hx hy]

theorem sroot_mul {n : ℕ} (hn : 1 ≤ n) (x y : ℝ) : sroot n (x * y) = sroot n x * sroot n y := by
  have flip : ∀ z : ℝ, sroot n z = -sroot n (-z) := fun z => by rw [sroot_neg hn, neg_neg]
  rcases le_or_gt 0 x with hx | hx
  · rcases le_or_gt 0 y with hy | hy
    · exact sroot_mul_of_nonneg n hx hy
    · have hy' : 0 ≤ -y := (neg_pos.mpr hy).le
      rw [flip (x * y), flip y, ← mul_neg, sroot_mul_of_nonneg n hx hy']
      ring
  · have hx' : 0 ≤ -x := (neg_pos.mpr hx).le
    rcases le_or_gt 0 y with hy | hy
    · rw [flip (x * y), flip x, ← neg_mul, sroot_mul_of_nonneg n hx' hy]
      ring
    · have hy' : 0 ≤ -y := (neg_pos.mpr hy).le
      rw [flip x, flip y, ← neg_mul_neg, sroot_mul_of_nonneg n hx' hy']
      ring

theorem sroot_npow {n : ℕ} (hn : 1 ≤ n) (x : ℝ) (m : ℕ) : sroot n (x ^ m) = sroot n x ^ m := by
  induction m with
  | zero => simp [sroot_one_arg]
  | succ m ih => rw [pow_succ, pow_succ, sroot_mul hn, ih]

theorem sroot_sroot (n m : ℕ) (x : ℝ) : sroot n (sroot m x) = sroot (n * m) x := by
  have hexp : (1 : ℝ) / m * ((1 : ℝ) / n) = (1 : ℝ) / ((n * m : ℕ) : ℝ) := by
    push_cast; ring
  rcases le_or_gt 0 x with h | h
  · rw [sroot_of_nonneg n (sroot_nonneg h), sroot_of_nonneg m h, sroot_of_nonneg (n * m) h,
      ← Real.rpow_mul h, hexp]
  · have hs : sroot m x < 0 := sroot_neg_of_neg m h
    rw [sroot_of_neg n hs, sroot_of_neg m h, sroot_of_neg (n * m) h, neg_neg,
      ← Real.rpow_mul (neg_pos.mpr h).le, hexp]

theorem sroot_mul_pow {g m : ℕ} (hg : 1 ≤ g) (hm : 1 ≤ m) (x : ℝ) (h : 0 ≤ x ∨ g % 2 = 1) :
    sroot (g * m) x ^ g = sroot m x := by
  have hg0 : (g : ℝ) ≠ 0 := by exact_mod_cast (by omega : g ≠ 0)
  have hm0 : (m : ℝ) ≠ 0 := by exact_mod_cast (by omega : m ≠ 0)
  have hexp : (1 : ℝ) / ((g * m : ℕ) : ℝ) * (g : ℝ) = (1 : ℝ) / m := by
    push_cast; field_simp
  rcases le_or_gt 0 x with hx | hx
  · rw [sroot_of_nonneg _ hx, sroot_of_nonneg _ hx, ← Real.rpow_natCast, ← Real.rpow_mul hx, hexp]
  · have hodd : Odd g := by
      rcases h with h | h
      · exact absurd h (not_le.mpr hx)
      · exact Nat.odd_iff.mpr h
    rw [sroot_of_neg _ hx, sroot_of_neg _ hx, Odd.neg_pow hodd, ← Real.rpow_natCast,
      ← Real.rpow_mul (neg_pos.mpr hx).le, hexp]

theorem sroot_pow_self {n : ℕ} (hn : 1 ≤ n) (x : ℝ) (h : 0 ≤ x ∨ n % 2 = 1) :
    sroot n x ^ n = x := by
  simpa only [mul_one, sroot_one] using sroot_mul_pow hn le_rfl x h

/-- `NthPower(NthRoot(u, m), n)` with `g = gcd m n`: both numbers can be divided by `g` -/
theorem sroot_pow_gcd {m n : ℕ} (hm : 1 ≤ m) (x : ℝ) (h : m % 2 = 0 → 0 ≤ x) :
    sroot (m / Nat.gcd m n) x ^ (n / Nat.gcd m n) = sroot m x ^ n := by
  have hgpos : 0 < Nat.gcd m n := Nat.gcd_pos_of_pos_left n (by omega)
  obtain ⟨m', hm'⟩ := Nat.gcd_dvd_left m n
  obtain ⟨n', hn'⟩ := Nat.gcd_dvd_right m n
  generalize Nat.gcd m n = g at *
  have hm1 : 1 ≤ m' := by
    rcases Nat.eq_zero_or_pos m' with h0 | h0
    · subst h0; omega
    · exact h0
  have e1 : m / g = m' := by rw [hm']; exact Nat.mul_div_cancel_left m' hgpos
  have e2 : n / g = n' := by rw [hn']; exact Nat.mul_div_cancel_left n' hgpos
  have hcond : 0 ≤ x ∨ g % 2 = 1 := by
    rcases le_or_gt 0 x with hx | hx
    · exact Or.inl hx
    · right
      have hmodd : m % 2 = 1 := by
        rcases Nat.mod_two_eq_zero_or_one m with h0 | h1
        · exact absurd (h h0) (not_le.mpr hx)
        · exact h1
      rcases Nat.mod_two_eq_zero_or_one g with h0 | h1
      · exfalso
        rw [hm', Nat.mul_mod, h0] at hmodd
        simp at hmodd
      · exact h1
  rw [e1, e2]
  conv_rhs => rw [hm', hn', pow_mul, sroot_mul_pow (by omega) hm1 x hcond]

end Smooth
