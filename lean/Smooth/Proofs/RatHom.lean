/-
Proofs/RatHom — the exact-rational run of the model (`qeNum`) computes the real-number value.

`qeNum : Num QE` (Model/Instances.lean) is exact rational arithmetic on the field `q : Rat` together
with a flag `rep : Bool`.  The flag is used by the correspondence harness only: constants and
coordinates enter with `rep = true` when they are IEEE doubles, every arithmetic operation and-s the
flags of its operands with `representable (exact result)` (`QE.mk'` changes nothing but the flag), and
when the flag of the final result holds the harness demands bit-exact equality with the Python
implementation.  "Representable" is a statement about IEEE doubles and lives outside Lean; nothing
below depends on `rep` (`φ` forgets it).  (Two caveats for the harness are recorded in
Properties/C01.lean: the size guard of `powNat`, and `multiply`'s short-circuit returning a fresh
zero, both of which can leave `rep = true` on a result whose history was not exact.)

`φ : QE → ℝ` commutes with every operation of `qeNum` that the evaluator and both differentiation
modes use on the rational fragment `RatFrag` (`const, var, add, minus, neg, mul, div, recip, npow`)
and the tests `isZero/isNeg/eq` agree (the lemmas `phi_*`); hence, link by link along the `>>=` chains
of the definitions (`hom_bind`), a run over `realNum` on the `φ`-image is `Except.map φ` of the run
over `qeNum`, values and errors alike (the lemmas `hom_*` and `*_hom_map`).

The single exception is `qeNum.powNat`, whose size guard answers `⟨0, false⟩` instead of the power;
the theorems assume it does not fire (`EvalFits`, `DiffFits`; `PowFits.of_small` for a bound).
`DiffFits` asks at an `npow u n` node that `u ^ n` fits although the differentiation formula itself
only takes `u ^ (n-1)`: the larger power is taken as soon as the node is evaluated (e.g. as a factor
of a product), and one predicate for both modes keeps the statements simple.
-/
import Smooth.Model.Instances
import Smooth.Real.Instance
import Smooth.Real.Spec
import Smooth.Proofs.Base

namespace Smooth
open Classical

/-- the real number an exact-rational value stands for -/
noncomputable def φ : QE → ℝ := fun x => (x.q : ℝ)

@[simp] theorem phi_mk' (q : Rat) (r : Bool) : φ (QE.mk' q r) = (q : ℝ) := rfl
@[simp] theorem phi_mk (q : Rat) (r : Bool) : φ ⟨q, r⟩ = (q : ℝ) := rfl

/-! `φ` on the arithmetic of `qeNum`: the fields of the instance unfold by definition to the
operations of `Rat`, so each fact is the matching `Rat.cast` lemma (unfolding `qeNum` with `simp`
would rebuild the whole record in every lemma). -/

@[simp] theorem phi_ofNat (n : ℕ) : φ (qeNum.ofNat n) = (n : ℝ) := Rat.cast_natCast n
@[simp] theorem phi_add (a b : QE) : φ (qeNum.add a b) = φ a + φ b := Rat.cast_add a.q b.q
@[simp] theorem phi_sub (a b : QE) : φ (qeNum.sub a b) = φ a - φ b := Rat.cast_sub a.q b.q
@[simp] theorem phi_neg (a : QE) : φ (qeNum.neg a) = - φ a := Rat.cast_neg a.q
@[simp] theorem phi_mul (a b : QE) : φ (qeNum.mul a b) = φ a * φ b := Rat.cast_mul a.q b.q
@[simp] theorem phi_div (a b : QE) : φ (qeNum.div a b) = φ a / φ b := Rat.cast_div a.q b.q
@[simp] theorem phi_isZero (a : QE) : qeNum.isZero a = decide (φ a = 0) := by
  show (a.q == 0) = decide ((a.q : ℝ) = 0)
  rw [Bool.eq_iff_iff]; simp
@[simp] theorem phi_isNeg (a : QE) : qeNum.isNeg a = decide (φ a < 0) := by
  show decide (a.q < 0) = decide ((a.q : ℝ) < 0)
  simp
@[simp] theorem phi_eq (a b : QE) : qeNum.eq a b = decide (φ a = φ b) := by
  show (a.q == b.q) = decide ((a.q : ℝ) = (b.q : ℝ))
  rw [Bool.eq_iff_iff]; simp

/-- The one place where `qeNum` is not arithmetic: `qeNum.powNat a n` does not compute astronomically
large exact powers; when `(log2 |num a| + log2 (den a) + 2) * n > 300000` it answers `⟨0, false⟩`
(value `0`, flag "not representable").  The value `0` is then wrong, and the run is only meaningful
if this guard never fires: `PowFits a n`. -/
def PowFits (a : QE) (n : ℕ) : Prop := (a.q.num.natAbs.log2 + a.q.den.log2 + 2) * n ≤ 300000

instance (a : QE) (n : ℕ) : Decidable (PowFits a n) := by unfold PowFits; infer_instance

theorem PowFits.mono {a : QE} {n m : ℕ} (h : PowFits a n) (hm : m ≤ n) : PowFits a m :=
  le_trans (Nat.mul_le_mul_left _ hm) h

theorem phi_powNat {a : QE} {n : ℕ} (h : PowFits a n) : φ (qeNum.powNat a n) = φ a ^ n := by
  show φ (if (a.q.num.natAbs.log2 + a.q.den.log2 + 2) * n > 300000 then ⟨0, false⟩
    else QE.mk' (ratPowNat a.q n) a.rep) = _
  rw [if_neg (Nat.not_lt.mpr h)]
  exact Rat.cast_pow a.q n

/-- when the guard fires the exact run is wrong: value `0`, flagged not representable -/
theorem powNat_guard_fires {a : QE} {n : ℕ} (h : ¬ PowFits a n) : qeNum.powNat a n = ⟨0, false⟩ := by
  show (if (a.q.num.natAbs.log2 + a.q.den.log2 + 2) * n > 300000 then (⟨0, false⟩ : QE)
    else QE.mk' (ratPowNat a.q n) a.rep) = _
  rw [if_pos (Nat.lt_of_not_le h)]

theorem log2_lt_of_lt_two_pow {m k : ℕ} (hk : 0 < k) (h : m < 2 ^ k) : m.log2 < k := by
  by_cases hm : m = 0
  · subst hm; simpa using hk
  · exact (Nat.log2_lt hm).mpr h

/-- for a small integer or dyadic rational: numerator and denominator below `2 ^ k` and
`2 k n ≤ 300000` -/
theorem PowFits.of_small {a : QE} {n k : ℕ} (hk : 0 < k) (hnum : a.q.num.natAbs < 2 ^ k)
    (hden : a.q.den < 2 ^ k) (hkn : 2 * k * n ≤ 300000) : PowFits a n := by
  unfold PowFits
  have h1 := log2_lt_of_lt_two_pow hk hnum
  have h2 := log2_lt_of_lt_two_pow hk hden
  have : a.q.num.natAbs.log2 + a.q.den.log2 + 2 ≤ 2 * k := by omega
  exact le_trans (Nat.mul_le_mul_right n this) hkn

variable {α β : Type}

mutual
/-- the same tree over another number type: constants and `exp`/`log` bases mapped, flags, names and
exponents kept -/
def Expr.castNum (f : α → β) : Expr α → Expr β
  | .const g v => .const g (f v) | .var g x => .var g x
  | .add g as => .add g (Expr.castNumList f as) | .mul g as => .mul g (Expr.castNumList f as)
  | .minus g l r => .minus g (Expr.castNum f l) (Expr.castNum f r)
  | .div g l r => .div g (Expr.castNum f l) (Expr.castNum f r)
  | .pow g l r => .pow g (Expr.castNum f l) (Expr.castNum f r)
  | .neg g u => .neg g (Expr.castNum f u) | .recip g u => .recip g (Expr.castNum f u)
  | .npow g u n => .npow g (Expr.castNum f u) n | .nroot g u n => .nroot g (Expr.castNum f u) n
  | .exp g u b => .exp g (Expr.castNum f u) (f b) | .log g u b => .log g (Expr.castNum f u) (f b)
  | .cos g u => .cos g (Expr.castNum f u) | .sin g u => .sin g (Expr.castNum f u)
def Expr.castNumList (f : α → β) : List (Expr α) → List (Expr β)
  | [] => []
  | e :: es => Expr.castNum f e :: Expr.castNumList f es
end

/-- the same point (or accumulator) over another number type -/
def Point.mapNum (f : α → β) (p : Point α) : Point β := p.map fun kv => (kv.1, f kv.2)

@[simp] theorem Point.mapNum_nil (f : α → β) : Point.mapNum f ([] : Point α) = [] := rfl
@[simp] theorem Point.mapNum_cons (f : α → β) (y : String) (v : α) (p : Point α) :
    Point.mapNum f ((y, v) :: p) = (y, f v) :: Point.mapNum f p := rfl

theorem Point.get?_mapNum (f : α → β) (x : String) :
    ∀ p : Point α, Point.get? (Point.mapNum f p) x = (Point.get? p x).map f
  | [] => rfl
  | (y, v) :: rest => by
    simp only [Point.mapNum_cons, Point.get?]
    split
    · rfl
    · exact Point.get?_mapNum f x rest

theorem varsAuxList_castNum_of (f : α → β) {es : List (Expr α)}
    (h : ∀ a ∈ es, ∀ acc, (Expr.castNum f a).varsAux acc = a.varsAux acc) (acc : List String) :
    Expr.varsAuxList (Expr.castNumList f es) acc = Expr.varsAuxList es acc := by
  induction es generalizing acc with
  | nil => rfl
  | cons e es ih =>
    rw [List.forall_mem_cons] at h
    simp only [Expr.castNumList, Expr.varsAuxList, h.1, ih h.2]

theorem varsAux_castNum (f : α → β) (e : Expr α) (acc : List String) :
    (Expr.castNum f e).varsAux acc = e.varsAux acc := by
  induction e using Expr.ind generalizing acc with
  | const | var => rfl
  | add g as ih | mul g as ih =>
    simp only [Expr.castNum, Expr.varsAux]
    exact varsAuxList_castNum_of f ih acc
  | minus g l r ihl ihr | div g l r ihl ihr | pow g l r ihl ihr =>
    simp only [Expr.castNum, Expr.varsAux, ihl, ihr]
  | neg g u ih | recip g u ih | npow g u n ih | nroot g u n ih | exp g u b ih | log g u b ih
  | cos g u ih | sin g u ih =>
    simp only [Expr.castNum, Expr.varsAux, ih]

theorem varsAuxList_castNum (f : α → β) : ∀ (es : List (Expr α)) (acc : List String),
    Expr.varsAuxList (Expr.castNumList f es) acc = Expr.varsAuxList es acc :=
  fun _ => varsAuxList_castNum_of f fun a _ => varsAux_castNum f a

theorem vars_castNum (f : α → β) (e : Expr α) : (Expr.castNum f e).vars = e.vars :=
  varsAux_castNum f e []

mutual
/-- only `const, var, add, minus, neg, mul, div, recip, npow` nodes: every intermediate of the
evaluator and of both differentiation modes is obtained by field operations and natural powers -/
def RatFrag : Expr QE → Prop
  | .const _ _ | .var _ _ => True
  | .add _ as | .mul _ as => RatFragList as
  | .minus _ l r | .div _ l r => RatFrag l ∧ RatFrag r
  | .neg _ u | .recip _ u | .npow _ u _ => RatFrag u
  | .pow _ _ _ | .nroot _ _ _ | .exp _ _ _ | .log _ _ _ | .cos _ _ | .sin _ _ => False
def RatFragList : List (Expr QE) → Prop
  | [] => True
  | e :: es => RatFrag e ∧ RatFragList es
end

/-- the power `(value of u) ^ n` passes the size guard (vacuous when `u` has no value) -/
def FitsAt (p : Point QE) (u : Expr QE) (n : ℕ) : Prop :=
  ∀ a, evalG qeNum p u = .ok a → PowFits a n

mutual
/-- no `npow` node met by the evaluator trips the size guard of `qeNum.powNat` -/
def EvalFits (p : Point QE) : Expr QE → Prop
  | .const _ _ | .var _ _ => True
  | .add _ as | .mul _ as => EvalFitsList p as
  | .minus _ l r | .div _ l r | .pow _ l r => EvalFits p l ∧ EvalFits p r
  | .npow _ u n => EvalFits p u ∧ FitsAt p u n
  | .neg _ u | .recip _ u | .nroot _ u _ | .exp _ u _ | .log _ u _ | .cos _ u | .sin _ u =>
      EvalFits p u
def EvalFitsList (p : Point QE) : List (Expr QE) → Prop
  | [] => True
  | e :: es => EvalFits p e ∧ EvalFitsList p es
end

mutual
/-- … nor any power taken by the differentiation formulas: besides the node's own `u ^ n` (whence
`u ^ (n-1)`), the squares `u ^ 2` in the derivative of `1/u` and `r ^ 2` in that of `l/r` -/
def DiffFits (p : Point QE) : Expr QE → Prop
  | .const _ _ | .var _ _ => True
  | .add _ as | .mul _ as => DiffFitsList p as
  | .minus _ l r | .pow _ l r => DiffFits p l ∧ DiffFits p r
  | .div _ l r => DiffFits p l ∧ DiffFits p r ∧ FitsAt p r 2
  | .npow _ u n => DiffFits p u ∧ FitsAt p u n
  | .recip _ u => DiffFits p u ∧ FitsAt p u 2
  | .neg _ u | .nroot _ u _ | .exp _ u _ | .log _ u _ | .cos _ u | .sin _ u => DiffFits p u
def DiffFitsList (p : Point QE) : List (Expr QE) → Prop
  | [] => True
  | e :: es => DiffFits p e ∧ DiffFitsList p es
end

theorem ratFragList_iff {es : List (Expr QE)} : RatFragList es ↔ ∀ a ∈ es, RatFrag a := by
  induction es with
  | nil => simp [RatFragList]
  | cons e es ih => simp only [RatFragList, ih, List.forall_mem_cons]

theorem evalFitsList_iff {p : Point QE} {es : List (Expr QE)} :
    EvalFitsList p es ↔ ∀ a ∈ es, EvalFits p a := by
  induction es with
  | nil => simp [EvalFitsList]
  | cons e es ih => simp only [EvalFitsList, ih, List.forall_mem_cons]

theorem diffFitsList_iff {p : Point QE} {es : List (Expr QE)} :
    DiffFitsList p es ↔ ∀ a ∈ es, DiffFits p a := by
  induction es with
  | nil => simp [DiffFitsList]
  | cons e es ih => simp only [DiffFitsList, ih, List.forall_mem_cons]

theorem DiffFits.evalFits (p : Point QE) : ∀ e, DiffFits p e → EvalFits p e := by
  intro e
  induction e using Expr.ind with
  | const | var => exact fun _ => trivial
  | add f as ih | mul f as ih =>
    simp only [DiffFits, diffFitsList_iff, EvalFits, evalFitsList_iff]
    exact fun h a ha => ih a ha (h a ha)
  | minus f l r ihl ihr | pow f l r ihl ihr =>
    exact fun h => ⟨ihl h.1, ihr h.2⟩
  | div f l r ihl ihr =>
    exact fun h => ⟨ihl h.1, ihr h.2.1⟩
  | npow f u n ih =>
    exact fun h => ⟨ih h.1, h.2⟩
  | recip f u ih =>
    exact fun h => ih h.1
  | neg f u ih | nroot f u n ih | exp f u b ih | log f u b ih | cos f u ih | sin f u ih =>
    exact ih

theorem phi_zero : φ qeNum.zero = realNum.zero := by simp [Num.zero]
theorem phi_one : φ qeNum.one = realNum.one := by simp [Num.one]

theorem phi_foldl_add (xs : List QE) : ∀ acc : QE,
    φ (xs.foldl qeNum.add acc) = (xs.map φ).foldl realNum.add (φ acc) := by
  induction xs with
  | nil => intro acc; rfl
  | cons x xs ih => intro acc; simp only [List.foldl_cons, List.map_cons, ih, phi_add, realNum_add]

theorem phi_mfAdd (xs : List QE) : φ (mfAdd qeNum xs) = mfAdd realNum (xs.map φ) := by
  unfold mfAdd sumL; rw [phi_foldl_add, phi_zero]

theorem phi_mulGo (xs : List QE) : ∀ acc : QE,
    φ (mulGo qeNum acc xs) = mulGo realNum (φ acc) (xs.map φ) := by
  induction xs with
  | nil => intro acc; rfl
  | cons x xs ih =>
    intro acc
    simp only [mulGo, List.map_cons, phi_isZero, realNum_isZero]
    by_cases h : φ x = 0
    · simp [h, phi_zero]
    · simp [h, ih]

theorem phi_mfMultiply (xs : List QE) : φ (mfMultiply qeNum xs) = mfMultiply realNum (xs.map φ) := by
  unfold mfMultiply; rw [phi_mulGo, phi_one]

theorem phi_mfMinus (a b : QE) : φ (mfMinus qeNum a b) = mfMinus realNum (φ a) (φ b) := by
  simp [mfMinus]

theorem phi_mfNegation (a : QE) : φ (mfNegation qeNum a) = mfNegation realNum (φ a) := by
  simp [mfNegation]

theorem phi_eraseIdx (vs : List QE) (i : ℕ) : (vs.eraseIdx i).map φ = (vs.map φ).eraseIdx i := by
  induction vs generalizing i with
  | nil => rfl
  | cons v vs ih => cases i with
    | zero => rfl
    | succ i => simp [List.eraseIdx, ih]

theorem phi_mulTermsGo (vs : List QE) : ∀ (ds : List QE) (i : ℕ),
    (mulTermsGo qeNum vs i ds).map φ = mulTermsGo realNum (vs.map φ) i (ds.map φ)
  | [], _ => rfl
  | d :: ds, i => by
    simp only [mulTermsGo, List.map_cons, phi_mfMultiply, phi_eraseIdx, phi_mulTermsGo vs ds (i + 1)]

theorem phi_mulTerms (ds vs : List QE) :
    (mulTerms qeNum ds vs).map φ = mulTerms realNum (ds.map φ) (vs.map φ) := phi_mulTermsGo vs ds 0

theorem hom_verifyDivide (a b : QE) :
    verifyDivide realNum (φ a) (φ b) = verifyDivide qeNum a b := by
  simp [verifyDivide]

theorem hom_verifyReciprocal (a : QE) :
    verifyReciprocal realNum (φ a) = verifyReciprocal qeNum a := by
  simp [verifyReciprocal]

theorem exceptMap_ok {ε α β : Type} (f : α → β) (a : α) :
    Except.map f (.ok a : Except ε α) = .ok (f a) := rfl
theorem exceptMap_error {ε α β : Type} (f : α → β) (e : ε) :
    Except.map f (.error e : Except ε α) = .error e := rfl

theorem hom_mfDivide (a b : QE) :
    mfDivide realNum (φ a) (φ b) = Except.map φ (mfDivide qeNum a b) := by
  simp only [mfDivide, pyTrueDiv, phi_isZero, realNum_isZero]
  by_cases h : φ b = 0 <;> simp [h, rmonad, exceptMap_ok, exceptMap_error]

theorem hom_mfReciprocal (a : QE) :
    mfReciprocal realNum (φ a) = Except.map φ (mfReciprocal qeNum a) := by
  simp only [mfReciprocal, pyTrueDiv, phi_isZero, realNum_isZero]
  by_cases h : φ a = 0 <;> simp [h, rmonad, phi_one, exceptMap_ok, exceptMap_error]

theorem hom_mfNthPower {a : QE} {n : ℕ} (h : PowFits a n) :
    mfNthPower realNum (φ a) n = Except.map φ (mfNthPower qeNum a n) := by
  simp only [mfNthPower]
  split <;> simp [rmonad, phi_powNat h, exceptMap_ok, exceptMap_error]

/-! ### the shapes of a run in `R`

Every function of the model is a chain of `>>=` ending in `pure` or in a library function; the real
run and the image of the exact run are compared link by link. -/

section shapes
variable {σ σ' τ τ' : Type} {f : σ → σ'} {g : τ → τ'}

theorem hom_pure {b : τ} {b' : τ'} (h : g b = b') : (pure b' : R τ') = Except.map g (pure b) := by
  rw [← h]; rfl

/-- the continuations need only agree on a value the exact run actually produced -/
theorem hom_bind {x : R σ} {x' : R σ'} {k : σ → R τ} {k' : σ' → R τ'}
    (hx : x' = Except.map f x) (hk : ∀ a, x = .ok a → k' (f a) = Except.map g (k a)) :
    x' >>= k' = Except.map g (x >>= k) := by
  subst hx
  cases x with
  | error _ => rfl
  | ok a => exact hk a rfl

theorem hom_guard {c c' : R Unit} {y : R τ} {y' : R τ'} (hc : c' = c) (hy : y' = Except.map g y) :
    (c' >>= fun _ => y') = Except.map g (c >>= fun _ => y) := by
  subst hc
  cases c' with
  | error _ => rfl
  | ok _ => exact hy

end shapes

theorem evalListG_hom_map_of (p : Point QE) {es : List (Expr QE)}
    (h : ∀ a ∈ es, evalG realNum (Point.mapNum φ p) (Expr.castNum φ a)
      = Except.map φ (evalG qeNum p a)) :
    evalListG realNum (Point.mapNum φ p) (Expr.castNumList φ es)
      = Except.map (List.map φ) (evalListG qeNum p es) := by
  induction es with
  | nil => rfl
  | cons e es ih =>
    rw [List.forall_mem_cons] at h
    simp only [evalListG, Expr.castNumList]
    exact hom_bind h.1 fun v _ => hom_bind (ih h.2) fun vs _ => rfl

/-- The exact-rational run is the real run: on the rational fragment, as long as the size guard
of `powNat` does not fire, evaluating over `qeNum` and then reading the rational as a real number is
evaluating the same tree over the real numbers — values and errors alike. -/
theorem evalG_hom_map (p : Point QE) : ∀ e : Expr QE, RatFrag e → EvalFits p e →
    evalG realNum (Point.mapNum φ p) (Expr.castNum φ e) = Except.map φ (evalG qeNum p e) := by
  intro e
  induction e using Expr.ind with
  | const f v => exact fun _ _ => rfl
  | var f x =>
    simp only [evalG, Expr.castNum, Point.get?_mapNum]
    cases Point.get? p x <;> exact fun _ _ => rfl
  | add f as ih | mul f as ih =>
    simp only [RatFrag, ratFragList_iff, EvalFits, evalFitsList_iff, evalG, Expr.castNum]
    refine fun hf hs => hom_bind (evalListG_hom_map_of p fun a ha => ih a ha (hf a ha) (hs a ha))
      fun vs _ => hom_pure ?_
    first | exact phi_mfAdd vs | exact phi_mfMultiply vs
  | minus f l r ihl ihr =>
    simp only [RatFrag, EvalFits, evalG, Expr.castNum]
    exact fun hf hs => hom_bind (ihl hf.1 hs.1) fun a _ => hom_bind (ihr hf.2 hs.2) fun b _ =>
      hom_pure (phi_mfMinus a b)
  | div f l r ihl ihr =>
    simp only [RatFrag, EvalFits, evalG, Expr.castNum]
    exact fun hf hs => hom_bind (ihl hf.1 hs.1) fun a _ => hom_bind (ihr hf.2 hs.2) fun b _ =>
      hom_guard (hom_verifyDivide a b) (hom_mfDivide a b)
  | neg f u ih =>
    simp only [RatFrag, EvalFits, evalG, Expr.castNum]
    exact fun hf hs => hom_bind (ih hf hs) fun a _ => hom_pure (phi_mfNegation a)
  | recip f u ih =>
    simp only [RatFrag, EvalFits, evalG, Expr.castNum]
    exact fun hf hs => hom_bind (ih hf hs) fun a _ =>
      hom_guard (hom_verifyReciprocal a) (hom_mfReciprocal a)
  | npow f u n ih =>
    simp only [RatFrag, EvalFits, evalG, Expr.castNum]
    exact fun hf hs => hom_bind (ih hf hs.1) fun a ha => hom_mfNthPower (hs.2 a ha)
  | pow | nroot | exp | log | cos | sin => exact False.elim

section formulas
variable {p : Point QE}

theorem hom_unaryVerify (e : Expr QE) (hf : RatFrag e) (a : QE) :
    unaryVerify realNum (Expr.castNum φ e) (φ a) = unaryVerify qeNum e a := by
  cases e with
  | recip f u => exact hom_verifyReciprocal a
  | nroot | log => exact False.elim hf
  | _ => rfl

theorem hom_unaryFormula (e : Expr QE) (hf : RatFrag e) (hs : DiffFits p e) (m : QE) :
    unaryFormula realNum (Point.mapNum φ p) (Expr.castNum φ e) (φ m)
      = Except.map φ (unaryFormula qeNum p e m) := by
  cases e with
  | const | var | add | mul | minus | div => rfl
  | neg f u => exact hom_pure (phi_mfNegation m)
  | recip f u =>
    simp only [unaryFormula, Expr.castNum]
    exact hom_bind (evalG_hom_map p u hf (hs.1.evalFits)) fun a ha =>
      hom_bind (hom_mfNthPower (hs.2 a ha)) fun sq _ =>
      hom_bind (hom_mfDivide m sq) fun q _ => hom_pure (phi_mfNegation q)
  | npow f u n =>
    simp only [unaryFormula, Expr.castNum]
    split
    · rfl
    · exact hom_bind (evalG_hom_map p u hf (hs.1.evalFits)) fun a ha =>
        hom_bind (hom_mfNthPower ((hs.2 a ha).mono (Nat.sub_le n 1))) fun pw _ =>
        hom_pure (by simp [phi_mfMultiply])
  | pow | nroot | exp | log | cos | sin => exact False.elim hf

theorem hom_divFormulaLeft (l : Expr QE) {r : Expr QE}
    (hr : evalG realNum (Point.mapNum φ p) (Expr.castNum φ r) = Except.map φ (evalG qeNum p r))
    (m : QE) :
    divFormulaLeft realNum (Point.mapNum φ p) (Expr.castNum φ l) (Expr.castNum φ r) (φ m)
      = Except.map φ (divFormulaLeft qeNum p l r m) :=
  hom_bind hr fun b _ => hom_mfDivide m b

theorem hom_divFormulaRight {l r : Expr QE}
    (hl : evalG realNum (Point.mapNum φ p) (Expr.castNum φ l) = Except.map φ (evalG qeNum p l))
    (hr : evalG realNum (Point.mapNum φ p) (Expr.castNum φ r) = Except.map φ (evalG qeNum p r))
    (h2 : FitsAt p r 2) (m : QE) :
    divFormulaRight realNum (Point.mapNum φ p) (Expr.castNum φ l) (Expr.castNum φ r) (φ m)
      = Except.map φ (divFormulaRight qeNum p l r m) :=
  hom_bind hl fun a _ => hom_bind hr fun b hb => hom_bind (hom_mfNthPower (h2 b hb)) fun sq _ =>
    hom_bind (hom_mfDivide a sq) fun q _ => hom_pure (by simp [phi_mfMultiply, phi_mfNegation])

end formulas

theorem fwdListG_hom_map_of (p : Point QE) (x : String) {es : List (Expr QE)}
    (h : ∀ a ∈ es, fwdG realNum (Point.mapNum φ p) x (Expr.castNum φ a)
      = Except.map φ (fwdG qeNum p x a)) :
    fwdListG realNum (Point.mapNum φ p) x (Expr.castNumList φ es)
      = Except.map (List.map φ) (fwdListG qeNum p x es) := by
  induction es with
  | nil => rfl
  | cons e es ih =>
    rw [List.forall_mem_cons] at h
    simp only [fwdListG, Expr.castNumList]
    exact hom_bind h.1 fun d _ => hom_bind (ih h.2) fun ds _ => rfl

theorem fwdG_hom_map (p : Point QE) (x : String) : ∀ e : Expr QE, RatFrag e → DiffFits p e →
    fwdG realNum (Point.mapNum φ p) x (Expr.castNum φ e) = Except.map φ (fwdG qeNum p x e) := by
  intro e
  induction e using Expr.ind with
  | const f v => exact fun _ _ => hom_pure phi_zero
  | var f y =>
    simp only [fwdG, Expr.castNum]
    split
    · exact fun _ _ => hom_pure phi_one
    · exact fun _ _ => hom_pure phi_zero
  | add f as ih =>
    simp only [RatFrag, ratFragList_iff, DiffFits, diffFitsList_iff, fwdG, Expr.castNum]
    exact fun hf hs => hom_bind (fwdListG_hom_map_of p x fun a ha => ih a ha (hf a ha) (hs a ha))
      fun ds _ => hom_pure (phi_mfAdd ds)
  | minus f l r ihl ihr =>
    simp only [RatFrag, DiffFits, fwdG, Expr.castNum]
    exact fun hf hs => hom_bind (ihl hf.1 hs.1) fun a _ => hom_bind (ihr hf.2 hs.2) fun b _ =>
      hom_pure (phi_mfMinus a b)
  | mul f as ih =>
    simp only [RatFrag, ratFragList_iff, DiffFits, diffFitsList_iff, fwdG, Expr.castNum]
    exact fun hf hs => hom_bind (evalListG_hom_map_of p fun a ha =>
        evalG_hom_map p a (hf a ha) ((hs a ha).evalFits)) fun vs _ =>
      hom_bind (fwdListG_hom_map_of p x fun a ha => ih a ha (hf a ha) (hs a ha)) fun ds _ =>
      hom_pure (by rw [phi_mfAdd, phi_mulTerms])
  | div f l r ihl ihr =>
    simp only [RatFrag, DiffFits, fwdG, Expr.castNum]
    intro hf hs
    have hl := evalG_hom_map p l hf.1 hs.1.evalFits
    have hr := evalG_hom_map p r hf.2 hs.2.1.evalFits
    exact hom_bind hl fun a _ => hom_bind hr fun b _ => hom_guard (hom_verifyDivide a b)
      (hom_bind (ihl hf.1 hs.1) fun dl _ => hom_bind (ihr hf.2 hs.2.1) fun dr _ =>
        hom_bind (hom_divFormulaLeft l hr dl) fun t1 _ =>
        hom_bind (hom_divFormulaRight hl hr hs.2.2 dr) fun t2 _ => hom_pure (phi_mfAdd [t1, t2]))
  | neg f u ih | recip f u ih | npow f u n ih =>
    intro hf hs
    have hu : RatFrag u ∧ DiffFits p u := by
      first | exact ⟨hf, hs.1⟩ | exact ⟨hf, hs⟩
    simp only [fwdG]
    exact hom_bind (evalG_hom_map p u hu.1 hu.2.evalFits) fun a _ =>
      hom_guard (hom_unaryVerify _ hf a)
        (hom_bind (ih hu.1 hu.2) fun d _ => hom_unaryFormula _ hf hs d)
  | pow | nroot | exp | log | cos | sin => exact False.elim

theorem fwdListG_hom_map (p : Point QE) (x : String) : ∀ es : List (Expr QE),
    RatFragList es → DiffFitsList p es →
    fwdListG realNum (Point.mapNum φ p) x (Expr.castNumList φ es)
      = Except.map (List.map φ) (fwdListG qeNum p x es) :=
  fun _ hf hs => fwdListG_hom_map_of p x fun a ha =>
    fwdG_hom_map p x a (ratFragList_iff.mp hf a ha) (diffFitsList_iff.mp hs a ha)

theorem Acc.get?_mapNum (f : α → β) (acc : Acc α) (x : String) :
    Acc.get? (Point.mapNum f acc) x = (Acc.get? acc x).map f := Point.get?_mapNum f x acc

theorem Acc.set_mapNum (f : α → β) (x : String) (v : α) : ∀ acc : Acc α,
    Acc.set (Point.mapNum f acc) x (f v) = Point.mapNum f (Acc.set acc x v)
  | [] => rfl
  | (y, w) :: rest => by
    simp only [Point.mapNum_cons, Acc.set]
    split
    · rfl
    · rw [Acc.set_mapNum f x v rest]; rfl

theorem phi_getD (acc : Acc QE) (x : String) :
    (Acc.get? (Point.mapNum φ acc) x).getD realNum.zero = φ ((Acc.get? acc x).getD qeNum.zero) := by
  rw [Acc.get?_mapNum, ← phi_zero, Option.getD_map]

theorem hom_addTo (acc : Acc QE) (x : String) (c : QE) :
    Point.mapNum φ (Acc.addTo qeNum acc x c) = Acc.addTo realNum (Point.mapNum φ acc) x (φ c) := by
  unfold Acc.addTo
  rw [phi_getD, realNum_add, ← phi_add, Acc.set_mapNum]

theorem revListG_hom_map_of (p : Point QE) {es : List (Expr QE)}
    (h : ∀ a ∈ es, ∀ m acc,
      revG realNum (Point.mapNum φ p) (Expr.castNum φ a) (φ m) (Point.mapNum φ acc)
        = Except.map (Point.mapNum φ) (revG qeNum p a m acc)) (m : QE) (acc : Acc QE) :
    revListG realNum (Point.mapNum φ p) (Expr.castNumList φ es) (φ m) (Point.mapNum φ acc)
      = Except.map (Point.mapNum φ) (revListG qeNum p es m acc) := by
  induction es generalizing acc with
  | nil => rfl
  | cons e es ih =>
    rw [List.forall_mem_cons] at h
    simp only [revListG, Expr.castNumList]
    exact hom_bind (h.1 m acc) fun acc1 _ => ih h.2 acc1

theorem revMulG_hom_map_of (p : Point QE) {es : List (Expr QE)}
    (h : ∀ a ∈ es, ∀ m acc,
      revG realNum (Point.mapNum φ p) (Expr.castNum φ a) (φ m) (Point.mapNum φ acc)
        = Except.map (Point.mapNum φ) (revG qeNum p a m acc))
    (vs : List QE) (m : QE) (i : ℕ) (acc : Acc QE) :
    revMulG realNum (Point.mapNum φ p) (vs.map φ) (φ m) i (Expr.castNumList φ es) (Point.mapNum φ acc)
      = Except.map (Point.mapNum φ) (revMulG qeNum p vs m i es acc) := by
  induction es generalizing i acc with
  | nil => rfl
  | cons e es ih =>
    rw [List.forall_mem_cons] at h
    simp only [revMulG, Expr.castNumList]
    rw [← phi_eraseIdx, ← List.map_cons, ← phi_mfMultiply]
    exact hom_bind (h.1 _ acc) fun acc1 _ => ih h.2 (i + 1) acc1

theorem revG_hom_map (p : Point QE) : ∀ e : Expr QE, RatFrag e → DiffFits p e →
    ∀ (m : QE) (acc : Acc QE),
    revG realNum (Point.mapNum φ p) (Expr.castNum φ e) (φ m) (Point.mapNum φ acc)
      = Except.map (Point.mapNum φ) (revG qeNum p e m acc) := by
  intro e
  induction e using Expr.ind with
  | const f v => exact fun _ _ _ _ => rfl
  | var f y => exact fun _ _ m acc => hom_pure (hom_addTo acc y m)
  | add f as ih =>
    simp only [RatFrag, ratFragList_iff, DiffFits, diffFitsList_iff, revG, Expr.castNum]
    exact fun hf hs => revListG_hom_map_of p fun a ha => ih a ha (hf a ha) (hs a ha)
  | minus f l r ihl ihr =>
    simp only [RatFrag, DiffFits, revG, Expr.castNum, ← phi_mfNegation]
    exact fun hf hs m acc => hom_bind (ihl hf.1 hs.1 m acc) fun acc1 _ => ihr hf.2 hs.2 _ acc1
  | mul f as ih =>
    simp only [RatFrag, ratFragList_iff, DiffFits, diffFitsList_iff, revG, Expr.castNum]
    exact fun hf hs m acc => hom_bind (evalListG_hom_map_of p fun a ha =>
        evalG_hom_map p a (hf a ha) ((hs a ha).evalFits)) fun vs _ =>
      revMulG_hom_map_of p (fun a ha => ih a ha (hf a ha) (hs a ha)) vs m 0 acc
  | div f l r ihl ihr =>
    simp only [RatFrag, DiffFits, revG, Expr.castNum]
    intro hf hs m acc
    have hl := evalG_hom_map p l hf.1 hs.1.evalFits
    have hr := evalG_hom_map p r hf.2 hs.2.1.evalFits
    exact hom_bind hl fun a _ => hom_bind hr fun b _ => hom_guard (hom_verifyDivide a b)
      (hom_bind (hom_divFormulaLeft l hr m) fun ml _ =>
        hom_bind (hom_divFormulaRight hl hr hs.2.2 m) fun mr _ =>
        hom_bind (ihl hf.1 hs.1 ml acc) fun acc1 _ => ihr hf.2 hs.2.1 mr acc1)
  | neg f u ih | recip f u ih | npow f u n ih =>
    intro hf hs m acc
    have hu : RatFrag u ∧ DiffFits p u := by
      first | exact ⟨hf, hs.1⟩ | exact ⟨hf, hs⟩
    simp only [revG]
    exact hom_bind (evalG_hom_map p u hu.1 hu.2.evalFits) fun a _ =>
      hom_guard (hom_unaryVerify _ hf a)
        (hom_bind (hom_unaryFormula _ hf hs m) fun m' _ => ih hu.1 hu.2 m' acc)
  | pow | nroot | exp | log | cos | sin => exact False.elim

theorem revListG_hom_map (p : Point QE) : ∀ es : List (Expr QE), RatFragList es → DiffFitsList p es →
    ∀ (m : QE) (acc : Acc QE),
    revListG realNum (Point.mapNum φ p) (Expr.castNumList φ es) (φ m) (Point.mapNum φ acc)
      = Except.map (Point.mapNum φ) (revListG qeNum p es m acc) :=
  fun _ hf hs => revListG_hom_map_of p fun a ha =>
    revG_hom_map p a (ratFragList_iff.mp hf a ha) (diffFitsList_iff.mp hs a ha)

theorem revMulG_hom_map (p : Point QE) : ∀ es : List (Expr QE), RatFragList es → DiffFitsList p es →
    ∀ (vs : List QE) (m : QE) (i : ℕ) (acc : Acc QE),
    revMulG realNum (Point.mapNum φ p) (vs.map φ) (φ m) i (Expr.castNumList φ es) (Point.mapNum φ acc)
      = Except.map (Point.mapNum φ) (revMulG qeNum p vs m i es acc) :=
  fun _ hf hs => revMulG_hom_map_of p fun a ha =>
    revG_hom_map p a (ratFragList_iff.mp hf a ha) (diffFitsList_iff.mp hs a ha)

/-- `_numeric_partials(point)` : the whole table of partials, read back per variable -/
theorem numericPartials_hom_map (p : Point QE) (e : Expr QE) (hf : RatFrag e) (hs : DiffFits p e) :
    numericPartials realNum (Point.mapNum φ p) (Expr.castNum φ e)
      = Except.map (Point.mapNum φ) (numericPartials qeNum p e) := by
  unfold numericPartials
  rw [vars_castNum, ← phi_one]
  refine hom_bind (revG_hom_map p e hf hs qeNum.one []) fun acc _ => hom_pure ?_
  simp only [phi_getD]
  exact List.map_map

/-- the bare-number entry point `Expression.at(number)` -/
theorem atNumber_hom_map (e : Expr QE) (t : QE) (hf : RatFrag e)
    (hs : ∀ x, EvalFits [(x, t)] e) :
    atNumber realNum (Expr.castNum φ e) (φ t) = Except.map φ (atNumber qeNum e t) := by
  unfold atNumber
  refine hom_bind (f := id) ?_ fun x _ => evalG_hom_map [(x, t)] e hf (hs x)
  unfold singleVarName
  rw [vars_castNum]
  split <;> rfl

/-! ### a successful exact run certifies well-formedness

On the fragment `WF` only asks `1 ≤ n` at every `npow` node; the evaluator visits every node and
`mfNthPower` rejects `n = 0`, so an exact run that returns a value has checked it. -/

theorem ratfragList_ok_WF_of (p : Point QE) {es : List (Expr QE)}
    (h : ∀ a ∈ es, ∀ v, evalG qeNum p a = .ok v → WF (Expr.castNum φ a)) :
    ∀ vs, evalListG qeNum p es = .ok vs → WFList (Expr.castNumList φ es) := by
  induction es with
  | nil => intro _ _; trivial
  | cons e es ih =>
    rw [List.forall_mem_cons] at h
    intro vs hvs
    simp only [evalListG, R.bind_eq_ok_iff] at hvs
    obtain ⟨a, ha, as, has, -⟩ := hvs
    exact ⟨h.1 a ha, ih h.2 as has⟩

theorem ratfrag_ok_WF (p : Point QE) : ∀ e : Expr QE, RatFrag e → ∀ v, evalG qeNum p e = .ok v →
    WF (Expr.castNum φ e) := by
  intro e
  induction e using Expr.ind with
  | const | var => exact fun _ _ _ => trivial
  | add f as ih | mul f as ih =>
    simp only [RatFrag, ratFragList_iff, evalG, R.bind_eq_ok_iff]
    rintro hf v ⟨vs, hvs, -⟩
    exact ratfragList_ok_WF_of p (fun a ha => ih a ha (hf a ha)) vs hvs
  | minus f l r ihl ihr | div f l r ihl ihr =>
    simp only [RatFrag, evalG, R.bind_eq_ok_iff]
    rintro hf v ⟨a, ha, b, hb, -⟩
    exact ⟨ihl hf.1 a ha, ihr hf.2 b hb⟩
  | neg f u ih | recip f u ih =>
    simp only [RatFrag, evalG, R.bind_eq_ok_iff]
    rintro hf v ⟨a, ha, -⟩
    exact ih hf a ha
  | npow f u n ih =>
    simp only [RatFrag, evalG, R.bind_eq_ok_iff]
    rintro hf v ⟨a, ha, hpow⟩
    refine ⟨Nat.one_le_iff_ne_zero.mpr fun hn => ?_, ih hf a ha⟩
    simp [mfNthPower, hn, rmonad] at hpow
  | pow | nroot | exp | log | cos | sin => exact False.elim

theorem ratfragList_ok_WF (p : Point QE) : ∀ es : List (Expr QE), RatFragList es →
    ∀ vs, evalListG qeNum p es = .ok vs → WFList (Expr.castNumList φ es) :=
  fun _ hf => ratfragList_ok_WF_of p fun a ha => ratfrag_ok_WF p a (ratFragList_iff.mp hf a ha)

instance qeDecEq : DecidableEq QE := fun a b =>
  if h : a.q = b.q ∧ a.rep = b.rep then isTrue (by cases a; cases b; simp_all)
  else isFalse (by rintro rfl; exact h ⟨rfl, rfl⟩)

theorem FitsAt.of_eval {p : Point QE} {u : Expr QE} {n : ℕ} {a : QE} (h : evalG qeNum p u = .ok a)
    (hfit : PowFits a n) : FitsAt p u n := by
  intro b hb; rw [h] at hb; cases hb; exact hfit

theorem FitsAt.of_error {p : Point QE} {u : Expr QE} {n : ℕ} {err : Err}
    (h : evalG qeNum p u = .error err) : FitsAt p u n := by
  intro b hb; rw [h] at hb; cases hb

end Smooth
