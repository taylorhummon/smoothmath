/-
Proofs/Measure — one call of `stepF` on an unflagged expression strictly decreases the measure `mu`
of Proofs/MeasureDefs (property C11), by induction over the anatomy of a step (`StepShape`): constant
folding, the step inside an operand (congruence of `mu` under rebuilding a node around one smaller
operand), a rule at the node (Proofs/MeasureRules), the flag.
-/
import Mathlib.Logic.Function.Iterate
import Smooth.Proofs.MeasureRules
import Smooth.Proofs.Shape

namespace Smooth
open Expr
variable {α : Type}

theorem wt_setFlags (g : Flags) (e : Expr α) : wt (e.setFlags g) = wt e := by
  cases e <;> simp only [setFlags, wt]

theorem root_setFlags (g : Flags) (e : Expr α) :
    rootA (e.setFlags g) = rootA e ∧ rootB (e.setFlags g) = rootB e ∧
      rootP (e.setFlags g) = rootP e := by
  cases e <;> exact ⟨rfl, rfl, rfl⟩

theorem total_eq (m : Expr α → Nat) (e : Expr α) :
    total m e = m e + ((children e).map (total m)).sum := by
  cases e <;> simp only [total, children, totalList_eq_sum, List.map_cons, List.map_nil,
    List.sum_cons, List.sum_nil, Nat.add_zero, Nat.add_assoc]

theorem total_setFlags (c : Expr α → Nat) (g : Flags) (e : Expr α) :
    total c (e.setFlags g) + c e = total c e + c (e.setFlags g) := by
  rw [total_eq, total_eq c e, children_setFlags]
  omega

theorem total_setFlags_eq {c : Expr α → Nat} {g : Flags} {e : Expr α}
    (h : c (e.setFlags g) = c e) : total c (e.setFlags g) = total c e := by
  have := total_setFlags c g e
  omega

theorem rootU_unflagged {e : Expr α} (h : e.isRed = false) : rootU e = 1 := by
  unfold rootU
  rw [show e.flags.red = false from h]
  rfl

theorem MuLt_markFailed_right {x e : Expr α} (h : MuLt x e.markFailed) : MuLt x e := by
  obtain ⟨hA, hB, hP⟩ := root_setFlags { e.flags with failed := true } e
  have hU : rootU (e.setFlags { e.flags with failed := true }) = rootU e := by
    simp only [rootU, flags_setFlags]
  simp only [MuLt, markFailed, cA, cB, cP, cU, total_setFlags_eq hA, total_setFlags_eq hB,
    total_setFlags_eq hP, total_setFlags_eq hU, wt_setFlags] at h
  exact h

theorem MuLt_markRed {e : Expr α} (h : e.isRed = false) : MuLt e.markRed e := by
  obtain ⟨hA, hB, hP⟩ := root_setFlags { e.flags with red := true } e
  have hU := total_setFlags rootU { e.flags with red := true } e
  rw [rootU_unflagged h] at hU
  simp only [rootU, flags_setFlags, if_true] at hU
  exact LexLt.ofU (total_setFlags_eq hA).le (total_setFlags_eq hB).le (wt_setFlags _ e).le
    (total_setFlags_eq hP).le (by simp only [cU, markRed]; omega)

theorem foldAttempt_lt (N : Num α) {e : Expr α} {v : α} (h : foldAttempt N e = some (.inl v)) :
    MuLt (mkConst v) e := by
  obtain ⟨hv, hc, -, -⟩ := foldAttempt_eq_inl_iff.mp h
  refine mkConst_lt v hc fun f x he => ?_
  subst he
  simp [vars, varsAux] at hv

theorem sum_hole {β : Type} (f : β → Nat) (pre post : List β) (c' c : β) :
    ((pre ++ c' :: post).map f).sum + f c = ((pre ++ c :: post).map f).sum + f c' := by
  simp only [List.map_append, List.map_cons, List.sum_append, List.sum_cons]
  omega

theorem MuLt.hole {c' c : Expr α} (h : MuLt c' c) (pre post : List (Expr α)) :
    MuLtList (pre ++ c' :: post) (pre ++ c :: post) := by
  have hadd := fun m : Expr α → Nat => sum_hole (total m) pre post c' c
  have hwt := sum_hole wt pre post c' c
  simp only [← totalList_eq_sum, ← wtList_eq_sum] at hadd hwt
  exact LexLt.congr h (hadd _) (hadd _) (fun hw => by omega) (fun hw => by omega) (hadd _) (hadd _)

theorem root_rebuildNode (e : Expr α) (cs : List (Expr α)) :
    rootA (rebuildNode e cs) = rootA e ∧ rootB (rebuildNode e cs) = rootB e ∧
      rootP (rebuildNode e cs) = rootP e := by
  cases e <;> exact ⟨rfl, rfl, rfl⟩

theorem singleton_eq_hole {β : Type} {u c : β} {pre post : List β} (h : [u] = pre ++ c :: post) :
    pre = [] ∧ c = u ∧ post = [] := by
  rcases pre with _ | ⟨a, pre⟩ <;> simp at h
  obtain ⟨rfl, rfl⟩ := h
  exact ⟨rfl, rfl, rfl⟩

theorem pair_eq_hole {β : Type} {l r c : β} {pre post : List β} (h : [l, r] = pre ++ c :: post) :
    pre = [] ∧ c = l ∧ post = [r] ∨ pre = [l] ∧ c = r ∧ post = [] := by
  rcases pre with _ | ⟨a, _ | ⟨b, pre⟩⟩ <;> simp at h
  · obtain ⟨rfl, rfl⟩ := h
    exact .inl ⟨rfl, rfl, rfl⟩
  · obtain ⟨rfl, rfl, rfl⟩ := h
    exact .inr ⟨rfl, rfl, rfl⟩

theorem wt_rebuildNode_mono {e c : Expr α} {pre post : List (Expr α)}
    (hch : children e = pre ++ c :: post) (c' : Expr α) :
    (wt c' < wt c → wt (rebuildNode e (pre ++ c' :: post)) < wt e) ∧
      (wt c' = wt c → wt (rebuildNode e (pre ++ c' :: post)) = wt e) := by
  cases e <;> simp only [children] at hch
  case const | var => cases pre <;> cases hch
  case add | mul =>
    subst hch
    have := sum_hole wt pre post c' c
    simp only [rebuildNode, mkAdd, mkMul, wt, wtList_eq_sum]
    omega
  case minus l r | div l r | pow l r =>
    have hl := two_le_wt l
    have hr := two_le_wt r
    rcases pair_eq_hole hch with ⟨rfl, rfl, rfl⟩ | ⟨rfl, rfl, rfl⟩ <;>
      simp only [rebuildNode, List.cons_append, List.nil_append, List.getD_cons_zero,
        List.getD_cons_succ, mkMinus, mkDiv, mkPow, wt]
    · refine ⟨fun hw => ?_, fun hw => by rw [hw]⟩
      have := Nat.pow_lt_pow_right (a := 2) (by omega)
        (Nat.mul_lt_mul_of_pos_right hw (show 0 < wt r by omega))
      omega
    · refine ⟨fun hw => ?_, fun hw => by rw [hw]⟩
      have := Nat.pow_lt_pow_right (a := 2) (by omega)
        (Nat.mul_lt_mul_of_pos_left hw (show 0 < wt l by omega))
      omega
  all_goals
    obtain ⟨rfl, rfl, rfl⟩ := singleton_eq_hole hch
    simp only [rebuildNode, List.nil_append, List.getD_cons_zero, mkNeg, mkRecip, mkCos, mkSin,
      mkNPow, mkNRoot, mkExp, mkLog, wt]
    refine ⟨fun hw => ?_, fun hw => by rw [hw]⟩
    -- every unary weight is a sum of `x`, `x * x` and `2 ^ x` in the operand's weight `x`
    have := Nat.mul_self_lt_mul_self hw
    have := Nat.pow_lt_pow_right (a := 2) (by omega) hw
    omega

theorem MuLt.rebuild {e c' c : Expr α} {pre post : List (Expr α)} (h : MuLt c' c)
    (he : e.isRed = false) (hch : children e = pre ++ c :: post) :
    MuLt (rebuildNode e (pre ++ c' :: post)) e := by
  have hadd : ∀ m : Expr α → Nat, m (rebuildNode e (pre ++ c' :: post)) = m e →
      total m (rebuildNode e (pre ++ c' :: post)) + total m c = total m e + total m c' := by
    intro m hm
    have := sum_hole (total m) pre post c' c
    rw [total_eq m e, total_eq m (rebuildNode _ _), children_rebuildNode e _ (by simp [hch]), hch,
      hm]
    omega
  obtain ⟨hA, hB, hP⟩ := root_rebuildNode e (pre ++ c' :: post)
  have hU : rootU (rebuildNode e (pre ++ c' :: post)) = rootU e := by
    rw [rootU_unflagged he, rootU_unflagged (congrArg Flags.red (flags_rebuildNode _ _))]
  obtain ⟨hlt, heq⟩ := wt_rebuildNode_mono hch c'
  exact LexLt.congr h (hadd _ hA) (hadd _ hB) hlt heq (hadd _ hP) (hadd _ hU)

theorem StepShape.lt {N : Num α} {e e' : Expr α} {ev : StepEvent} (hs : StepShape N e e' ev)
    (h : e.isRed = false) : MuLt e' e := by
  induction hs with
  | already hr => rw [hr] at h; cases h
  | fold _ hfa => exact foldAttempt_lt N hfa
  | child _ _ hch _ hc _ ih => exact (ih hc).rebuild h hch
  | rule _ _ _ hself hfr =>
    have hr := (firstRule_eq_some hfr).1
    rcases hself with rfl | ⟨rfl, _⟩
    · exact rule_decreases N _ hr
    · exact MuLt_markFailed_right (rule_decreases N _ hr)
  | flag _ _ _ hself _ =>
    rcases hself with rfl | ⟨rfl, _⟩
    · exact MuLt_markRed h
    · exact MuLt_markFailed_right (MuLt_markRed ((isRed_markFailed _).trans h))

theorem stepF_lt (N : Num α) (e : Expr α) : e.isRed = false → MuLt (stepF N e).1 e :=
  (stepF_shape N e).lt

theorem stepFirstUnreduced_lt (N : Num α) : ∀ (as : List (Expr α)) (p : List (Expr α) × StepEvent),
    stepFirstUnreduced N as = some p → MuLtList p.1 as := by
  intro as p h
  obtain ⟨pre, c, post, rfl, -, hc, rfl⟩ := stepFirstUnreduced_eq_some.mp h
  exact (stepF_lt N c hc).hole pre post

theorem mu_stepE_lt (N : Num α) (e : Expr α) (h : e.isRed = false) : mu (stepE N e) < mu e :=
  (mu_lt_iff _ _).mpr (stepF_lt N e h)

theorem mu_stepE_le (N : Num α) (e : Expr α) : mu (stepE N e) ≤ mu e := by
  cases h : e.isRed
  · exact (mu_stepE_lt N e h).le
  · rw [stepE, stepF_of_isRed N e h]

theorem mu_iterate_lt (N : Num α) (e : Expr α) (i : Nat) (hi : ((stepE N)^[i] e).isRed = false) :
    ∀ j, i < j → mu ((stepE N)^[j] e) < mu ((stepE N)^[i] e) := by
  intro j hij
  induction j with
  | zero => omega
  | succ j ih =>
    rw [Function.iterate_succ_apply']
    rcases Nat.lt_succ_iff_lt_or_eq.mp hij with hlt | rfl
    · exact lt_of_le_of_lt (mu_stepE_le N _) (ih hlt)
    · exact mu_stepE_lt N _ hi

theorem exists_iterate_isRed (N : Num α) (e : Expr α) : ∃ k, ((stepE N)^[k] e).isRed = true := by
  generalize hm : mu e = m
  induction m using WellFoundedLT.induction generalizing e with
  | ind m ih =>
    cases h : e.isRed
    · obtain ⟨k, hk⟩ := ih (mu (stepE N e)) (hm ▸ mu_stepE_lt N e h) (stepE N e) rfl
      exact ⟨k + 1, by rwa [Function.iterate_succ_apply]⟩
    · exact ⟨0, h⟩

/-- the `for _ in range(bound)` loop with a budget above the number of steps needed neither warns
nor stops early: it returns the first flagged iterate -/
theorem fullyReduceLoop_of_iterate (N : Num α) :
    ∀ (n fuel : Nat) (e : Expr α) (k : Nat) (tr : List StepEvent),
      ((stepE N)^[n] e).isRed = true → n < fuel →
      (fullyReduceLoop N fuel e k tr).warned = false ∧
        (fullyReduceLoop N fuel e k tr).expr.isRed = true
  | n, 0, e, k, tr, _, hf => by omega
  | 0, fuel + 1, e, k, tr, h, _ => by
    have h' : e.isRed = true := h
    simp [fullyReduceLoop, h']
  | n + 1, fuel + 1, e, k, tr, h, hf => by
    unfold fullyReduceLoop
    cases he : e.isRed
    · simp only [Bool.false_eq_true, if_false]
      rw [Function.iterate_succ_apply] at h
      exact fullyReduceLoop_of_iterate N n fuel (stepE N e) (k + 1) _ h (by omega)
    · simp [he]

theorem fullyReduceLoop_eq_iterate (N : Num α) :
    ∀ (fuel : Nat) (e : Expr α) (k : Nat) (tr : List StepEvent),
      (fullyReduceLoop N fuel e k tr).warned = false →
      ∃ n, (fullyReduceLoop N fuel e k tr).expr = (stepE N)^[n] e ∧
        ((stepE N)^[n] e).isRed = true
  | 0, e, k, tr, hw => by simp [fullyReduceLoop] at hw
  | fuel + 1, e, k, tr, hw => by
    unfold fullyReduceLoop at hw ⊢
    split
    · rename_i he
      exact ⟨0, rfl, he⟩
    · rename_i he
      simp only [he] at hw
      obtain ⟨n, h1, h2⟩ := fullyReduceLoop_eq_iterate N fuel _ _ _ hw
      exact ⟨n + 1, by rw [Function.iterate_succ_apply]; exact h1,
        by rw [Function.iterate_succ_apply]; exact h2⟩

theorem iterate_const_of_isRed (N : Num α) (e : Expr α) (k : Nat)
    (hk : ((stepE N)^[k] e).isRed = true) : ∀ j, k ≤ j → (stepE N)^[j] e = (stepE N)^[k] e := by
  intro j hj
  obtain ⟨d, rfl⟩ := Nat.exists_eq_add_of_le hj
  rw [Nat.add_comm, Function.iterate_add_apply]
  exact Function.iterate_fixed (by rw [stepE, stepF_of_isRed N _ hk]) d

/-- a flag event at the root certifies that no rule applies there -/
theorem stepF_flag_red (N : Num α) (e : Expr α) (hev : (stepF N e).2 = .flag)
    (hred : (stepF N e).1.isRed = true) :
    firstRule N (stepF N e).1 (reducers (stepF N e).1) = none := by
  have hs := stepF_shape N e
  generalize (stepF N e).1 = e' at hs hred ⊢
  generalize (stepF N e).2 = ev at hs hev
  subst hev
  cases hs with
  | child =>
    -- the step inside an operand returns a freshly built, unflagged node
    rw [isRed, flags_rebuildNode] at hred
    cases hred
  | flag _ _ _ _ hfr => rw [markRed, firstRule_setFlags]; exact hfr

end Smooth
