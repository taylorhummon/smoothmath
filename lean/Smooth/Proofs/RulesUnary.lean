/-
Proofs/RulesUnary — soundness (C08) of the 34 rewrite rules of the unary and binary classes
(`Minus`, `Negation`, `Divide`, `Reciprocal`, `Power`, `NthPower`, `NthRoot`, `Exponential`,
`Logarithm`, `Cosine`, `Sine`).  What is specific to a rule is the third field of `Refines`: when it
fires on a well-formed `e` and yields `e'`, then `e'` is defined wherever `e` is and has the same
value there (`unaryRule_sem`; the other two fields are `rule_closed`, see Proofs/RulesNary).

One recorded exception, K1: `ruleNRootPow` (`NthRoot(NthPower(u,m),n) ⇒ NthPower(NthRoot(u,n),m)`)
is unsound when `n` and `m` are both even; it is proved under `K1Free e` and the failure is exhibited
by `nrootPow_unsound`.
-/
import Smooth.Proofs.ListSem
import Smooth.Proofs.RuleInv
import Smooth.Proofs.SRoot

namespace Smooth
open Expr Classical

/-- the rules of `Add` and `Multiply` -/
def RuleId.isNary : RuleId → Bool
  | .addFlatten | .addZeros | .addLogs | .addConsts | .mulFlatten | .mulZero | .mulOnes | .mulNegs
  | .mulNPows | .mulNRoots | .mulExps | .mulConsts => true
  | _ => false

/-- the 34 rules of the unary and binary classes -/
def unaryRules : List RuleId :=
  [.minusToSum, .negNeg, .negSum, .divToMul, .recipRecip, .recipNeg, .recipProd, .powOne,
    .powZero, .onePow, .powNat, .powNegOne, .powConstBase, .powPow, .powNegExp, .powRecipBase,
    .npowOne, .npowRoot, .npowPow, .npowNeg, .npowRecip, .npowExp, .nrootOne, .nrootPow,
    .nrootRoot, .nrootNeg, .nrootRecip, .expLog, .expNeg, .logExp, .logRecip, .logNPow, .cosNeg,
    .sinNeg]

/-- the redex is not an instance of the recorded defect K1: it is not an even root of an even power -/
def K1Free : Expr ℝ → Prop
  | .nroot _ (.npow _ _ m) n => ¬ (n % 2 = 0 ∧ m % 2 = 0)
  | _ => True

/-- the side condition under which a rule is sound: none, except K1 for `.nrootPow` -/
def K1FreeAt : RuleId → Expr ℝ → Prop
  | .nrootPow, e => K1Free e
  | _, _ => True

theorem mem_unaryRules (r : RuleId) : r ∈ unaryRules ↔ r.isNary = false := by
  have h : unaryRules.contains r = !r.isNary := by cases r <;> rfl
  rw [← List.contains_iff_mem, h, Bool.not_eq_true']

theorem even_of_div_even {m g : ℕ} (hg : g ∣ m) (h : m / g % 2 = 0) : m % 2 = 0 := by
  rw [← Nat.div_mul_cancel hg, Nat.mul_mod, h, Nat.zero_mul, Nat.zero_mod]

/-- C08, unary/binary classes.  Every one of the 34 rules, whenever it fires on a well-formed
expression, yields one that is defined wherever the input is and has the same value there (outside
the recorded defect K1). -/
theorem unaryRule_sem {r : RuleId} (hn : r.isNary = false) {e e' : Expr ℝ}
    (h : r.apply realNum e = some e') (hk : K1FreeAt r e) (hwf : WF e) (ρ : String → ℝ)
    (hd : Dom ρ e) : Dom ρ e' ∧ den ρ e' = den ρ e := by
  cases r with
  | addFlatten | addZeros | addLogs | addConsts | mulFlatten | mulZero | mulOnes | mulNegs | mulNPows
  | mulNRoots | mulExps | mulConsts => cases hn
  | minusToSum =>
    obtain ⟨f, l, r, rfl, rfl⟩ := ruleMinusToSum_eq_some.mp h
    simp only [Dom, DomList, den, denList, List.sum_cons, List.sum_nil] at hd ⊢
    exact ⟨⟨hd.1, hd.2, trivial⟩, by ring⟩
  | negNeg =>
    obtain ⟨f, g, rfl⟩ := ruleNegNeg_eq_some.mp h
    simp only [Dom, den, neg_neg] at hd ⊢
    exact ⟨hd, trivial⟩
  | negSum =>
    obtain ⟨f, g, as, rfl, rfl⟩ := ruleNegSum_eq_some.mp h
    simp only [Dom, den, domList_iff, denList_eq_map, List.forall_mem_map, List.map_map] at hd ⊢
    exact ⟨hd, sum_map_neg (den ρ) as⟩
  | divToMul =>
    obtain ⟨f, l, r, rfl, rfl⟩ := ruleDivToMul_eq_some.mp h
    simp only [Dom, DomList, den, denList, List.prod_cons, List.prod_nil, mul_one] at hd ⊢
    exact ⟨⟨hd.1, hd.2, trivial⟩, (div_eq_mul_inv _ _).symm⟩
  | recipRecip =>
    obtain ⟨f, g, rfl⟩ := ruleRecipRecip_eq_some.mp h
    simp only [Dom, den, inv_inv] at hd ⊢
    exact ⟨hd.1.1, trivial⟩
  | recipNeg =>
    obtain ⟨f, g, u, rfl, rfl⟩ := ruleRecipNeg_eq_some.mp h
    simp only [Dom, den] at hd ⊢
    exact ⟨⟨hd.1, neg_ne_zero.mp hd.2⟩, inv_neg.symm⟩
  | recipProd =>
    obtain ⟨f, g, as, rfl, rfl⟩ := ruleRecipProd_eq_some.mp h
    simp only [Dom, den, domList_iff, denList_eq_map, List.forall_mem_map, List.map_map] at hd ⊢
    refine ⟨fun a ha => ⟨hd.1 a ha, fun h0 => hd.2 ?_⟩, prod_map_inv (den ρ) as⟩
    exact List.prod_eq_zero (List.mem_map.mpr ⟨a, ha, h0⟩)
  | powOne =>
    obtain ⟨f, r, rfl, hr⟩ := rulePowOne_eq_some.mp h
    obtain ⟨g, v, rfl, hv⟩ := isConstSuch_eq_true.mp hr
    simp only [realNum_eq, realNum_one, decide_eq_true_eq] at hv
    subst hv
    simp only [Dom, den] at hd ⊢
    exact ⟨hd.1, by rw [one_mul, Real.exp_log hd.2.2]⟩
  | powZero =>
    obtain ⟨f, l, r, rfl, hr, rfl⟩ := rulePowZero_eq_some.mp h
    obtain ⟨g, v, rfl, hv⟩ := isConstSuch_eq_true.mp hr
    simp only [realNum_isZero, decide_eq_true_eq] at hv
    subst hv
    simp only [Dom, den, zero_mul, Real.exp_zero, realNum_one]
    exact ⟨trivial, trivial⟩
  | onePow =>
    obtain ⟨f, l, r, rfl, hl, rfl⟩ := ruleOnePow_eq_some.mp h
    obtain ⟨g, v, rfl, hv⟩ := isConstSuch_eq_true.mp hl
    simp only [realNum_eq, realNum_one, decide_eq_true_eq] at hv
    subst hv
    simp only [Dom, den, Real.log_one, mul_zero, Real.exp_zero, realNum_one]
    exact ⟨trivial, trivial⟩
  | powNat =>
    obtain ⟨f, l, g, v, k, rfl, hk, h2, rfl⟩ := rulePowNat_eq_some.mp h
    have hnat : ((k.toNat : ℕ) : ℝ) = v := by
      rw [← realNum_toInt_some hk]
      exact_mod_cast Int.toNat_of_nonneg (by omega)
    simp only [Dom, den] at hd ⊢
    exact ⟨hd.1, by rw [← hnat, Real.exp_nat_mul, Real.exp_log hd.2.2]⟩
  | powNegOne =>
    obtain ⟨f, l, r, rfl, hr, rfl⟩ := rulePowNegOne_eq_some.mp h
    obtain ⟨g, v, rfl, hv⟩ := isConstSuch_eq_true.mp hr
    simp only [realNum_eq, realNum_negOne, decide_eq_true_eq] at hv
    subst hv
    simp only [Dom, den] at hd ⊢
    exact ⟨⟨hd.1, hd.2.2.ne'⟩, by rw [neg_one_mul, Real.exp_neg, Real.exp_log hd.2.2]⟩
  | powConstBase =>
    obtain ⟨f, g, v, r, rfl, -, -, rfl⟩ := rulePowConstBase_eq_some.mp h
    simp only [Dom, den] at hd ⊢
    exact ⟨hd.2.1, trivial⟩
  | powPow =>
    obtain ⟨f, g, u, v, w, rfl, rfl⟩ := rulePowPow_eq_some.mp h
    simp only [Dom, DomList, den, denList, List.prod_cons, List.prod_nil, mul_one,
      Real.log_exp] at hd ⊢
    exact ⟨⟨hd.1.1, ⟨hd.1.2.1, hd.2.1, trivial⟩, hd.1.2.2⟩, by congr 1; ring⟩
  | powNegExp =>
    obtain ⟨f, l, g, v, rfl, rfl⟩ := rulePowNegExp_eq_some.mp h
    simp only [Dom, den] at hd ⊢
    exact ⟨⟨hd, Real.exp_ne_zero _⟩, by rw [neg_mul, Real.exp_neg]⟩
  | powRecipBase =>
    obtain ⟨f, g, u, r, rfl, rfl⟩ := rulePowRecipBase_eq_some.mp h
    simp only [Dom, den] at hd ⊢
    exact ⟨⟨⟨hd.1.1, hd.2.1, inv_pos.mp hd.2.2⟩, Real.exp_ne_zero _⟩,
      by rw [Real.log_inv, mul_neg, Real.exp_neg]⟩
  | npowOne =>
    obtain ⟨f, rfl⟩ := ruleNPowOne_eq_some.mp h
    simp only [Dom, den, pow_one] at hd ⊢
    exact ⟨hd, trivial⟩
  | npowRoot =>
    obtain ⟨f, g, u, m, n, rfl, ⟨rfl, rfl⟩ | ⟨-, -, rfl⟩⟩ := ruleNPowRoot_eq_some.mp h
    · simp only [Dom, den] at hd ⊢
      simp only [WF] at hwf
      refine ⟨hd.1, (sroot_pow_self hwf.2.1 _ ?_).symm⟩
      exact (Nat.mod_two_eq_zero_or_one m).imp hd.2.2 id
    · simp only [Dom, den] at hd ⊢
      simp only [WF] at hwf
      exact ⟨⟨hd.1, fun h2 => hd.2.1 (h2.trans (Nat.div_le_self _ _)),
        fun hev => hd.2.2 (even_of_div_even (Nat.gcd_dvd_left m n) hev)⟩,
        sroot_pow_gcd hwf.2.1 _ hd.2.2⟩
  | npowPow =>
    obtain ⟨f, g, u, m, n, rfl, rfl⟩ := ruleNPowPow_eq_some.mp h
    simp only [Dom, den] at hd ⊢
    exact ⟨hd, by rw [mul_comm, pow_mul]⟩
  | npowNeg =>
    obtain ⟨f, g, u, n, rfl, rfl⟩ := ruleNPowNeg_eq_some.mp h
    split
    · next hev =>
      simp only [Dom, den] at hd ⊢
      exact ⟨hd, ((Nat.even_iff.mpr hev).neg_pow _).symm⟩
    · next hodd =>
      simp only [Dom, den] at hd ⊢
      exact ⟨hd, ((Nat.odd_iff.mpr (by omega)).neg_pow _).symm⟩
  | npowRecip =>
    obtain ⟨f, g, u, n, rfl, rfl⟩ := ruleNPowRecip_eq_some.mp h
    simp only [Dom, den] at hd ⊢
    exact ⟨⟨hd.1, pow_ne_zero _ hd.2⟩, (inv_pow _ _).symm⟩
  | npowExp =>
    obtain ⟨f, g, u, b, n, rfl, rfl⟩ := ruleNPowExp_eq_some.mp h
    simp only [Dom, DomList, den, denList, List.prod_cons, List.prod_nil, mul_one,
      realNum_ofNat] at hd ⊢
    exact ⟨⟨trivial, hd, trivial⟩, by rw [mul_assoc, Real.exp_nat_mul]⟩
  | nrootOne =>
    obtain ⟨f, rfl⟩ := ruleNRootOne_eq_some.mp h
    simp only [Dom, den, sroot_one] at hd ⊢
    exact ⟨hd.1, trivial⟩
  | nrootPow =>
    obtain ⟨f, g, u, m, n, rfl, rfl⟩ := ruleNRootPow_eq_some.mp h
    simp only [K1FreeAt, K1Free] at hk
    simp only [Dom, den] at hd ⊢
    simp only [WF] at hwf
    refine ⟨⟨hd.1, fun h2 h0 => hd.2.1 h2 ?_, fun hev => ?_⟩, (sroot_npow hwf.1 _ _).symm⟩
    · rw [h0]
      exact zero_pow (by omega)
    · exact (Nat.odd_iff.mpr (by omega) : Odd m).pow_nonneg_iff.mp (hd.2.2 hev)
  | nrootRoot =>
    obtain ⟨f, g, u, m, n, rfl, rfl⟩ := ruleNRootRoot_eq_some.mp h
    simp only [Dom, den] at hd ⊢
    simp only [WF] at hwf
    obtain ⟨⟨hdu, hm2, hmev⟩, hn2, hnev⟩ := hd
    refine ⟨⟨hdu, fun h2 => ?_, fun hev => ?_⟩, (sroot_sroot n m _).symm⟩
    · -- one of the two degrees is at least 2; for `m = 1` the inner root is the identity
      by_cases hm : 2 ≤ m
      · exact hm2 hm
      · obtain rfl : m = 1 := by omega
        simpa only [sroot_one] using hn2 (by omega)
    · -- one of the two degrees is even
      rcases Nat.mod_two_eq_zero_or_one m with h0 | h1
      · exact hmev h0
      · exact (sroot_nonneg_iff m).mp (hnev (by rw [Nat.mul_mod, h1] at hev; omega))
  | nrootNeg =>
    obtain ⟨f, g, u, n, rfl, hodd, rfl⟩ := ruleNRootNeg_eq_some.mp h
    simp only [Dom, den] at hd ⊢
    simp only [WF] at hwf
    exact ⟨⟨hd.1, fun h2 => neg_ne_zero.mp (hd.2.1 h2), fun hev => by omega⟩,
      (sroot_neg hwf.1 _).symm⟩
  | nrootRecip =>
    obtain ⟨f, g, u, n, rfl, rfl⟩ := ruleNRootRecip_eq_some.mp h
    simp only [Dom, den] at hd ⊢
    simp only [WF] at hwf
    obtain ⟨⟨hdu, hu0⟩, -, hev⟩ := hd
    exact ⟨⟨⟨hdu, fun _ => hu0, fun h => inv_nonneg.mp (hev h)⟩, sroot_ne_zero _ hu0⟩,
      (sroot_inv hwf.1 _).symm⟩
  | expLog =>
    obtain ⟨f, g, b, b', rfl, hb⟩ := ruleExpLog_eq_some.mp h
    simp only [realNum_eq, decide_eq_true_eq] at hb
    subst hb
    simp only [Dom, den] at hd ⊢
    simp only [WF] at hwf
    exact ⟨hd.1, by rw [div_mul_cancel₀ _ (Real.log_ne_zero_of_pos_of_ne_one hwf.1 hwf.2.2.1),
      Real.exp_log hd.2]⟩
  | expNeg =>
    obtain ⟨f, g, u, b, rfl, rfl⟩ := ruleExpNeg_eq_some.mp h
    simp only [Dom, den] at hd ⊢
    exact ⟨⟨hd, Real.exp_ne_zero _⟩, by rw [neg_mul, Real.exp_neg]⟩
  | logExp =>
    obtain ⟨f, g, b, b', rfl, hb⟩ := ruleLogExp_eq_some.mp h
    simp only [realNum_eq, decide_eq_true_eq] at hb
    subst hb
    simp only [Dom, den] at hd ⊢
    simp only [WF] at hwf
    exact ⟨hd.1, by rw [Real.log_exp,
      mul_div_cancel_right₀ _ (Real.log_ne_zero_of_pos_of_ne_one hwf.1 hwf.2.1)]⟩
  | logRecip =>
    obtain ⟨f, g, u, b, rfl, rfl⟩ := ruleLogRecip_eq_some.mp h
    simp only [Dom, den] at hd ⊢
    exact ⟨⟨hd.1.1, inv_pos.mp hd.2⟩, by rw [Real.log_inv, neg_div]⟩
  | logNPow =>
    obtain ⟨f, g, u, n, b, rfl, hodd, rfl⟩ := ruleLogNPow_eq_some.mp h
    simp only [Dom, DomList, den, denList, List.prod_cons, List.prod_nil, mul_one, realNum_ofNat,
      Real.log_pow] at hd ⊢
    exact ⟨⟨trivial, ⟨hd.1, (Nat.odd_iff.mpr hodd).pow_pos_iff.mp hd.2⟩, trivial⟩,
      (mul_div_assoc _ _ _).symm⟩
  | cosNeg =>
    obtain ⟨f, g, u, rfl, rfl⟩ := ruleCosNeg_eq_some.mp h
    simp only [Dom, den, Real.cos_neg] at hd ⊢
    exact ⟨hd, trivial⟩
  | sinNeg =>
    obtain ⟨f, g, u, rfl, rfl⟩ := ruleSinNeg_eq_some.mp h
    simp only [Dom, den, Real.sin_neg] at hd ⊢
    exact ⟨hd, trivial⟩

/-- K1, the negative witness: at x = -3 the input `NthRoot(NthPower(x,2),2)` is defined (value 3),
the output `NthPower(NthRoot(x,2),2)` is not. -/
theorem nrootPow_unsound :
    ¬ Refines (mkNRoot (mkNPow (mkVar "x") 2) 2 : Expr ℝ) (mkNPow (mkNRoot (mkVar "x") 2) 2) := by
  intro h
  have hwf : WF (mkNRoot (mkNPow (mkVar "x") 2) 2 : Expr ℝ) := by simp [WF]
  have hd : Dom (fun _ => (-3 : ℝ)) (mkNRoot (mkNPow (mkVar "x") 2) 2 : Expr ℝ) := by
    simp only [Dom, den]
    norm_num
  have := (h.sem hwf (fun _ => (-3 : ℝ)) hd).1
  simp only [Dom, den] at this
  have h3 := this.2.2 (by norm_num)
  norm_num at h3

/-- K1 through the evaluator: at x = -3 the redex evaluates, the rewritten expression raises
`DomainError` -/
theorem nrootPow_unsound_eval :
    (∃ v, evalG realNum [("x", -3)] (mkNRoot (mkNPow (mkVar "x") 2) 2 : Expr ℝ) = .ok v) ∧
      evalG realNum [("x", -3)] (mkNPow (mkNRoot (mkVar "x") 2) 2 : Expr ℝ) = .error .domain := by
  constructor
  · refine ⟨_, (evalR_good _ _ (by simp [WF])).ok_iff.mpr ⟨?_, ?_, rfl⟩⟩
    · simp [Supp, Point.get?]
    · simp only [Dom, den, valOf, Point.get?]
      norm_num
  · refine (Good.domain_iff (evalR_good _ _ (by simp [WF])) ?_).mpr ?_
    · simp [Supp, Point.get?]
    · simp only [Dom, den, valOf, Point.get?]
      norm_num

/-- the negative witness really is an instance of `ruleNRootPow` that violates only `K1Free` -/
example :
    ruleNRootPow (mkNRoot (mkNPow (mkVar "x") 2) 2 : Expr ℝ) =
        some (mkNPow (mkNRoot (mkVar "x") 2) 2) ∧
      WF (mkNRoot (mkNPow (mkVar "x") 2) 2 : Expr ℝ) ∧
      ¬ K1Free (mkNRoot (mkNPow (mkVar "x") 2) 2 : Expr ℝ) := by
  refine ⟨rfl, by simp [WF], by simp [K1Free]⟩

/-- the list is complete: every reducer of every class other than `Add` and `Multiply` is in it -/
theorem reducers_mem_unaryRules (e : Expr ℝ) (hadd : ∀ f as, e ≠ .add f as)
    (hmul : ∀ f as, e ≠ .mul f as) : ∀ r ∈ reducers e, r ∈ unaryRules := by
  suffices ∀ r ∈ reducers e, r.isNary = false from fun r hr => (mem_unaryRules r).mpr (this r hr)
  cases e
  case add f as => exact absurd rfl (hadd f as)
  case mul f as => exact absurd rfl (hmul f as)
  all_goals
    simp only [reducers]
    decide

/-- a redex for every rule -/
def unaryWitness : RuleId → Expr ℝ
  | .minusToSum => mkMinus (mkVar "x") (mkVar "y")
  | .negNeg => mkNeg (mkNeg (mkVar "x"))
  | .negSum => mkNeg (mkAdd [mkVar "x", mkVar "y"])
  | .divToMul => mkDiv (mkVar "x") (mkVar "y")
  | .recipRecip => mkRecip (mkRecip (mkVar "x"))
  | .recipNeg => mkRecip (mkNeg (mkVar "x"))
  | .recipProd => mkRecip (mkMul [mkVar "x", mkVar "y"])
  | .powOne => mkPow (mkVar "x") (mkConst 1)
  | .powZero => mkPow (mkVar "x") (mkConst 0)
  | .onePow => mkPow (mkConst 1) (mkVar "x")
  | .powNat => mkPow (mkVar "x") (mkConst 3)
  | .powNegOne => mkPow (mkVar "x") (mkConst (-1))
  | .powConstBase => mkPow (mkConst 2) (mkVar "x")
  | .powPow => mkPow (mkPow (mkVar "x") (mkVar "y")) (mkVar "x")
  | .powNegExp => mkPow (mkVar "x") (mkNeg (mkVar "y"))
  | .powRecipBase => mkPow (mkRecip (mkVar "x")) (mkVar "y")
  | .npowOne => mkNPow (mkVar "x") 1
  | .npowRoot => mkNPow (mkNRoot (mkVar "x") 6) 4
  | .npowPow => mkNPow (mkNPow (mkVar "x") 2) 3
  | .npowNeg => mkNPow (mkNeg (mkVar "x")) 3
  | .npowRecip => mkNPow (mkRecip (mkVar "x")) 2
  | .npowExp => mkNPow (mkExp (mkVar "x") 2) 3
  | .nrootOne => mkNRoot (mkVar "x") 1
  | .nrootPow => mkNRoot (mkNPow (mkVar "x") 2) 3
  | .nrootRoot => mkNRoot (mkNRoot (mkVar "x") 2) 3
  | .nrootNeg => mkNRoot (mkNeg (mkVar "x")) 3
  | .nrootRecip => mkNRoot (mkRecip (mkVar "x")) 2
  | .expLog => mkExp (mkLog (mkVar "x") 2) 2
  | .expNeg => mkExp (mkNeg (mkVar "x")) 2
  | .logExp => mkLog (mkExp (mkVar "x") 2) 2
  | .logRecip => mkLog (mkRecip (mkVar "x")) 2
  | .logNPow => mkLog (mkNPow (mkVar "x") 3) 2
  | .cosNeg => mkCos (mkNeg (mkVar "x"))
  | .sinNeg => mkSin (mkNeg (mkVar "x"))
  | _ => mkVar "x"

theorem unaryWitness_wf (r : RuleId) : WF (unaryWitness r) := by
  cases r <;> simp [unaryWitness, WF, WFList]

theorem unaryWitness_dom (r : RuleId) : Dom (fun _ => (2 : ℝ)) (unaryWitness r) := by
  cases r <;> simp [unaryWitness, Dom, DomList, den, denList, Real.exp_pos, sroot_ne_zero]

theorem unaryWitness_k1 (r : RuleId) : K1FreeAt r (unaryWitness r) := by
  cases r with
  | nrootPow => exact fun h => absurd h.1 (by decide)
  | _ => trivial

/-- non-vacuity of `unaryRule_sem`: each of the 34 rules fires on a well-formed redex that meets the
K1 side condition and is defined at the point where every variable is 2 -/
theorem unaryRule_fires : ∀ r ∈ unaryRules, ∃ e' : Expr ℝ,
    r.apply realNum (unaryWitness r) = some e' ∧ WF (unaryWitness r) ∧
      K1FreeAt r (unaryWitness r) ∧ Dom (fun _ => (2 : ℝ)) (unaryWitness r) := by
  intro r hr
  have hfires : ∃ e', r.apply realNum (unaryWitness r) = some e' := by
    -- the eight rules that compare real numbers are read off their inversion lemmas, the others run
    cases r with
    | addFlatten | addZeros | addLogs | addConsts | mulFlatten | mulZero | mulOnes | mulNegs
    | mulNPows | mulNRoots | mulExps | mulConsts => cases (mem_unaryRules _).mp hr
    | powOne =>
      exact ⟨_, (rulePowOne_eq_some (e := unaryWitness .powOne)).mpr
        ⟨_, _, rfl, by simp [isConstSuch, asConst]⟩⟩
    | powZero =>
      exact ⟨_, (rulePowZero_eq_some (e := unaryWitness .powZero)).mpr
        ⟨_, _, _, rfl, by simp [isConstSuch, asConst], rfl⟩⟩
    | onePow =>
      exact ⟨_, (ruleOnePow_eq_some (e := unaryWitness .onePow)).mpr
        ⟨_, _, _, rfl, by simp [isConstSuch, asConst], rfl⟩⟩
    | powNat =>
      exact ⟨_, (rulePowNat_eq_some (e := unaryWitness .powNat)).mpr
        ⟨_, _, _, _, 3, rfl, by simpa using realNum_toInt_intCast 3, by decide, rfl⟩⟩
    | powNegOne =>
      exact ⟨_, (rulePowNegOne_eq_some (e := unaryWitness .powNegOne)).mpr
        ⟨_, _, _, rfl, by simp [isConstSuch, asConst], rfl⟩⟩
    | powConstBase =>
      exact ⟨_, (rulePowConstBase_eq_some (e := unaryWitness .powConstBase)).mpr
        ⟨_, _, _, _, rfl, by simp, by simp, rfl⟩⟩
    | expLog =>
      exact ⟨_, (ruleExpLog_eq_some (e := unaryWitness .expLog)).mpr ⟨_, _, _, _, rfl, by simp⟩⟩
    | logExp =>
      exact ⟨_, (ruleLogExp_eq_some (e := unaryWitness .logExp)).mpr ⟨_, _, _, _, rfl, by simp⟩⟩
    | _ => exact ⟨_, rfl⟩
  obtain ⟨e', he'⟩ := hfires
  exact ⟨e', he', unaryWitness_wf r, unaryWitness_k1 r, unaryWitness_dom r⟩

end Smooth
