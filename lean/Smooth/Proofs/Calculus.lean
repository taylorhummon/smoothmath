/-
Proofs/Calculus — the analysis behind forward and reverse mode: the denotation as a function of one
coordinate, derivatives of list sums and products in the shape the code computes them, and the
derivative of the sign-keeping root on both half-lines.
-/
import Mathlib.Analysis.SpecialFunctions.Pow.Deriv
import Mathlib.Analysis.SpecialFunctions.Trigonometric.Deriv
import Mathlib.Analysis.SpecialFunctions.Log.Deriv
import Mathlib.Analysis.Calculus.Deriv.Inverse
import Smooth.Proofs.Eval
import Smooth.Proofs.Vars
import Smooth.Proofs.SRoot

namespace Smooth
open Filter Topology

noncomputable def upd (ρ : String → ℝ) (x : String) (t : ℝ) : String → ℝ := Function.update ρ x t

@[simp] theorem upd_self (ρ : String → ℝ) (x : String) : upd ρ x (ρ x) = ρ := by
  simp [upd]

theorem upd_same (ρ : String → ℝ) (x : String) (t : ℝ) : upd ρ x t x = t := by simp [upd]

theorem upd_other (ρ : String → ℝ) {x y : String} (t : ℝ) (h : y ≠ x) : upd ρ x t y = ρ y := by
  simp [upd, Function.update_of_ne h]

theorem den_upd_of_not_occurs (ρ : String → ℝ) {x : String} (e : Expr ℝ) (h : ¬ Occurs x e) (t : ℝ) :
    den (upd ρ x t) e = den ρ e :=
  den_congr e fun _ hy => upd_other ρ t fun hyx => h (hyx ▸ hy)

theorem den_upd_of_vars_nil (ρ : String → ℝ) (x : String) (e : Expr ℝ) (h : e.vars = []) (t : ℝ) :
    den (upd ρ x t) e = den ρ e :=
  den_upd_of_not_occurs ρ e (fun hx => by simpa [h] using (mem_vars x e).mpr hx) t

def DerivL (fs : List (ℝ → ℝ)) (ds : List ℝ) (x : ℝ) : Prop :=
  List.Forall₂ (fun f d => HasDerivAt f d x) fs ds

theorem hasDerivAt_list_sum {fs : List (ℝ → ℝ)} {ds : List ℝ} {x : ℝ} (h : DerivL fs ds x) :
    HasDerivAt (fun t => (fs.map fun f => f t).sum) ds.sum x := by
  induction h with
  | nil => simpa using hasDerivAt_const x (0 : ℝ)
  | cons hf _ ih =>
    simp only [List.map_cons, List.sum_cons]
    exact hf.add ih

/-- the derivative of a product of a list, in the recursive shape `d·Πrest + v·(rest)'` -/
def prodDeriv : List ℝ → List ℝ → ℝ
  | d :: ds, v :: vs => d * vs.prod + v * prodDeriv ds vs
  | _, _ => 0

theorem hasDerivAt_list_prod {fs : List (ℝ → ℝ)} {ds : List ℝ} {x : ℝ} (h : DerivL fs ds x) :
    HasDerivAt (fun t => (fs.map fun f => f t).prod) (prodDeriv ds (fs.map fun f => f x)) x := by
  induction h with
  | nil => simpa [prodDeriv] using hasDerivAt_const x (1 : ℝ)
  | cons hf _ ih =>
    simp only [List.map_cons, List.prod_cons, prodDeriv]
    exact hf.mul ih

/-- the code's sum over `i` of `multiply(d_i, *values_without_i)` is that derivative -/
theorem mulTermsGo_sum (pre : List ℝ) : ∀ (ds vs : List ℝ), ds.length = vs.length →
    (mulTermsGo realNum (pre ++ vs) pre.length ds).sum = pre.prod * prodDeriv ds vs
  | [], [], _ => by simp [mulTermsGo, prodDeriv]
  | [], _ :: _, h => by simp at h
  | _ :: _, [], h => by simp at h
  | d :: ds, v :: vs, h => by
    have hlen : ds.length = vs.length := by simpa using h
    have ih := mulTermsGo_sum (pre ++ [v]) ds vs hlen
    simp only [List.append_assoc, List.singleton_append, List.length_append, List.length_singleton]
      at ih
    simp only [mulTermsGo, List.sum_cons, mfMultiply_real, List.prod_cons, prodDeriv]
    rw [ih]
    have : (pre ++ v :: vs).eraseIdx pre.length = pre ++ vs := by
      rw [List.eraseIdx_append_of_length_le (le_refl _)]
      simp
    rw [this]
    simp only [List.prod_append, List.prod_cons, List.prod_nil, mul_one]
    ring

theorem mulTerms_sum (ds vs : List ℝ) (h : ds.length = vs.length) :
    mfAdd realNum (mulTerms realNum ds vs) = prodDeriv ds vs := by
  have := mulTermsGo_sum [] ds vs h
  simpa [mulTerms] using this

theorem continuousAt_sroot {n : ℕ} {a : ℝ} (ha : a ≠ 0) : ContinuousAt (sroot n) a := by
  rcases lt_or_gt_of_ne ha with h | h
  · have hev : sroot n =ᶠ[𝓝 a] fun x => -((-x) ^ ((1 : ℝ) / n)) := by
      filter_upwards [Iio_mem_nhds h] with x hx
      exact sroot_of_neg _ hx
    refine ContinuousAt.congr ?_ hev.symm
    have h1 : ContinuousAt (fun x : ℝ => -x) a := continuous_neg.continuousAt
    have h2 : ContinuousAt (fun y : ℝ => y ^ ((1 : ℝ) / n)) (-a) :=
      Real.continuousAt_rpow_const _ _ (Or.inl (by linarith [neg_pos.mpr h] : (-a) ≠ 0))
    exact (h2.comp (f := fun x : ℝ => -x) h1).neg
  · have hev : sroot n =ᶠ[𝓝 a] fun x => x ^ ((1 : ℝ) / n) := by
      filter_upwards [Ioi_mem_nhds h] with x hx
      exact sroot_of_nonneg _ (le_of_lt hx)
    exact ContinuousAt.congr (Real.continuousAt_rpow_const _ _ (Or.inl ha)) hev.symm

/-- derivative of the n-th root in the form the code uses: `1 / (n · (ⁿ√a)ⁿ⁻¹)`, on both half-lines -/
theorem hasDerivAt_sroot {n : ℕ} (hn : 1 ≤ n) {a : ℝ} (hok : RootOK n a) (ha : a ≠ 0) :
    HasDerivAt (sroot n) ((n * sroot n a ^ (n - 1))⁻¹) a := by
  have hf : HasDerivAt (fun y : ℝ => y ^ n) (n * sroot n a ^ (n - 1)) (sroot n a) := by
    simpa using hasDerivAt_pow n (sroot n a)
  have hne : (n : ℝ) * sroot n a ^ (n - 1) ≠ 0 := by
    have h1 : (n : ℝ) ≠ 0 := by exact_mod_cast (by omega : n ≠ 0)
    exact mul_ne_zero h1 (pow_ne_zero _ (sroot_ne_zero _ ha))
  refine HasDerivAt.of_local_left_inverse (continuousAt_sroot ha) hf hne ?_
  rcases lt_or_gt_of_ne ha with h | h
  · -- a < 0 : n is odd
    have hodd : n % 2 = 1 := by
      by_contra hne2
      have : n % 2 = 0 := by omega
      exact absurd (hok.2 this) (not_le.mpr h)
    exact Filter.Eventually.of_forall fun y => sroot_pow_self hn y (Or.inr hodd)
  · filter_upwards [Ioi_mem_nhds h] with y hy
    exact sroot_pow_self hn y (Or.inl (le_of_lt hy))

end Smooth
