/-
Proofs/SymForwardRun — three runs of `as_expression()` over the reals.  `realNum` decides `= 0`, `<`, `=`
classically, so `normalize realNum e` cannot be computed by `decide`; the reduction loop is replayed
with Proofs/Replay (`ReplaySteps`, `isCtx_*`, `stepF_mul_top`, `replay_step_simp`): the run of a node
from the runs of its operands and the steps at the node, each step checked by evaluation, the two
steps that compute with numbers (`mulConsts`, constant folding) by hand.
* `x * sin x`: no K1 rewrite happens, so the hypothesis of `as_expression_sound_partial` can be met;
* `NthRoot(NthPower(x, 2), 2)` (= |x|): the K1 witness through the whole of `as_expression()`; the
  returned `Divide(x, x)` is `1` at `x = -3`, the derivative is `-1`;
* `x * NthRoot(NthPower(x, 2), 2)`: the same through the product rule; the returned `x + (x * x) / x`
  is `-6` at `x = -3`, the derivative is `6`.
-/
import Smooth.Proofs.SymForward
import Smooth.Proofs.Replay

namespace Smooth
open Expr

theorem asExpression_of_normalize {e s : Expr ℝ} {x : String} {w : Bool}
    (h : normalize realNum (symFwd realNum x e) = some (s, w)) :
    (PartialObj.mk e x none).asExpression realNum = .ok (s, ⟨e, x, some s⟩, w) := by
  simp only [PartialObj.asExpression, retrieveSyntheticPartial, h, liftFuel]
  rfl

/-- the raw symbolic partial of `NthRoot(NthPower(x, 2), 2)` -/
noncomputable def runK1E0 : Expr ℝ :=
  mkDiv (mkMul [mkConst 2, mkNPow (mkVar "x") 1, mkConst 1])
    (mkMul [mkConst 2, mkNPow (mkNRoot (mkNPow (mkVar "x") 2) 2) 1])

noncomputable def runK1Reduced : Expr ℝ :=
  .mul .reduced [.var .reduced "x", .recip .reduced (.var .reduced "x")]

def runK1Evs : List StepEvent :=
  [.flag, .flag, .rule .npowOne, .flag, .rule .mulOnes, .flag, .flag, .flag, .flag, .rule .nrootPow,
    .flag, .rule .npowRoot, .rule .npowOne, .flag, .rule .divToMul, .rule .recipProd, .fold, .flag,
    .flag, .flag, .rule .mulFlatten, .rule .mulFlatten, .rule .mulConsts, .flag, .rule .mulOnes, .flag]

/-- `NthRoot(NthPower(x, 2), 2)` becomes `x`: the operand is flagged, `nrootPow` exchanges root and
power (the K1 rewrite), and `NthPower(NthRoot(x, 2), 2)` cancels -/
theorem runK1_abs :
    ReplaySteps realNum (mkNRoot (mkNPow (mkVar "x") 2) 2)
      [.flag, .flag, .rule .nrootPow, .flag, .rule .npowRoot] (.var .reduced "x") :=
  (ReplaySteps.var "x").congr (isCtx_npow 2)
    |>.append (.flag rfl (by decide) rfl)
    |>.congr (isCtx_nroot 2)
    |>.append (.rule .nrootPow rfl (by decide) rfl)
    |>.append ((ReplaySteps.flag rfl (by decide) rfl).congr (isCtx_npow 2))
    |>.append (.rule .npowRoot rfl (by decide) rfl)

theorem runK1_two_x_one :
    stepF realNum (mkMul [.const .reduced 2, .var .reduced "x", .const .reduced 1]) =
      (mkMul [.const .reduced 2, .var .reduced "x"], .rule .mulOnes) := by
  rw [stepF_mul_top rfl (by decide) rfl]
  replay_step_simp

theorem runK1_two_x :
    stepF realNum (mkMul [.const .reduced 2, .var .reduced "x"]) =
      ((mkMul [.const .reduced 2, .var .reduced "x"]).markRed, .flag) := by
  rw [stepF_mul_top rfl (by decide) rfl]
  replay_step_simp

theorem runK1_num :
    ReplaySteps realNum (mkMul [mkConst 2, mkNPow (mkVar "x") 1, mkConst 1])
      [.flag, .flag, .rule .npowOne, .flag, .rule .mulOnes, .flag]
      (.mul .reduced [.const .reduced 2, .var .reduced "x"]) :=
  (isCtx_mul [] _ rfl).const 2 (by decide)
    |>.append ((ReplaySteps.var "x").congr (isCtx_npow 1)
      |>.append (.rule .npowOne rfl (by decide) rfl)
      |>.congr (isCtx_mul [_] _ rfl))
    |>.append ((isCtx_mul [_, _] [] rfl).const 1 (by decide))
    |>.append (.rule .mulOnes rfl (by decide) runK1_two_x_one)
    |>.append (.flag rfl (by decide) runK1_two_x)

theorem runK1_den :
    ReplaySteps realNum (mkMul [mkConst 2, mkNPow (mkNRoot (mkNPow (mkVar "x") 2) 2) 1])
      [.flag, .flag, .flag, .rule .nrootPow, .flag, .rule .npowRoot, .rule .npowOne, .flag]
      (.mul .reduced [.const .reduced 2, .var .reduced "x"]) :=
  (isCtx_mul [] _ rfl).const 2 (by decide)
    |>.append (runK1_abs.congr (isCtx_npow 1)
      |>.append (.rule .npowOne rfl (by decide) rfl)
      |>.congr (isCtx_mul [_] [] rfl))
    |>.append (.flag rfl (by decide) runK1_two_x)

theorem runK1_recip_two :
    stepF realNum (mkRecip (.const .reduced (2 : ℝ))) = (mkConst (1 / 2), .fold) := by
  simp [stepF, stepNode, foldAttempt, isConstNode, isRed, Expr.flags, vars, varsAux, evalG,
    mfReciprocal, verifyReciprocal, pyTrueDiv, bind, Except.bind, pure, Except.pure]

theorem runK1_half_recip :
    stepF realNum (mkMul [.const .reduced (1 / 2), .recip .reduced (.var .reduced "x")]) =
      ((mkMul [.const .reduced (1 / 2), .recip .reduced (.var .reduced "x")]).markRed, .flag) := by
  rw [stepF_mul_top rfl (by decide) rfl]
  replay_step_simp

theorem runK1_recip :
    ReplaySteps realNum (mkRecip (.mul .reduced [.const .reduced 2, .var .reduced "x"]))
      [.rule .recipProd, .fold, .flag, .flag, .flag]
      (.mul .reduced [.const .reduced (1 / 2), .recip .reduced (.var .reduced "x")]) :=
  .cons rfl (by decide) rfl <|
    (isCtx_mul [] _ rfl).single (by decide) rfl runK1_recip_two
      |>.append ((isCtx_mul [] _ rfl).const (1 / 2) (by decide))
      |>.append ((ReplaySteps.flag rfl (by decide) rfl).congr (isCtx_mul [_] [] rfl))
      |>.append (.flag rfl (by decide) runK1_half_recip)

theorem runK1_mulConsts :
    stepF realNum
        (mkMul [.const .reduced 2, .var .reduced "x", .const .reduced (1 / 2),
          .recip .reduced (.var .reduced "x")]) =
      (mkMul [.var .reduced "x", .recip .reduced (.var .reduced "x"), mkConst 1],
        .rule .mulConsts) := by
  rw [stepF_mul_top rfl (by decide) rfl]
  refine Eq.trans (b := (mkMul [_, _, mkConst (mfMultiply realNum [2, 1 / 2])], _))
    (by replay_step_simp) ?_
  norm_num [mfMultiply, mulGo]

theorem runK1_x_recip_one :
    stepF realNum
        (mkMul [.var .reduced "x", .recip .reduced (.var .reduced "x"), .const .reduced 1]) =
      (mkMul [.var .reduced "x", .recip .reduced (.var .reduced "x")], .rule .mulOnes) := by
  rw [stepF_mul_top rfl (by decide) rfl]
  replay_step_simp

theorem runK1_steps : ReplaySteps realNum runK1E0 runK1Evs runK1Reduced :=
  runK1_num.congr (isCtx_div_left _)
    |>.append (runK1_den.congr (isCtx_div_right rfl))
    |>.append (.rule .divToMul rfl (by decide) rfl)
    |>.append (runK1_recip.congr (isCtx_mul [_] [] rfl))
    |>.append (.rule .mulFlatten rfl (by decide) rfl)
    |>.append (.rule .mulFlatten rfl (by decide) rfl)
    |>.append (.rule .mulConsts rfl (by decide) runK1_mulConsts)
    |>.append ((isCtx_mul [_, _] [] rfl).const 1 (by decide))
    |>.append (.rule .mulOnes rfl (by decide) runK1_x_recip_one)
    |>.append (.flag rfl (by decide) rfl)

/-- the raw symbolic partial of `x * NthRoot(NthPower(x, 2), 2)` -/
noncomputable def runXabsE0 : Expr ℝ :=
  mkAdd [mkMul [mkConst 1, mkNRoot (mkNPow (mkVar "x") 2) 2], mkMul [runK1E0, mkVar "x"]]

noncomputable def runXabsReduced : Expr ℝ :=
  .add .reduced [.mul .reduced [.var .reduced "x"],
    .mul .reduced [.var .reduced "x", .recip .reduced (.var .reduced "x"), .var .reduced "x"]]

def runXabsEvs : List StepEvent :=
  [.flag, .flag, .flag, .rule .nrootPow, .flag, .rule .npowRoot, .rule .mulOnes, .flag] ++ runK1Evs ++
    [.flag, .rule .mulFlatten, .flag, .flag]

theorem runXabs_left :
    ReplaySteps realNum (mkMul [mkConst 1, mkNRoot (mkNPow (mkVar "x") 2) 2])
      [.flag, .flag, .flag, .rule .nrootPow, .flag, .rule .npowRoot, .rule .mulOnes, .flag]
      (.mul .reduced [.var .reduced "x"]) :=
  (isCtx_mul [] _ rfl).const 1 (by decide)
    |>.append (runK1_abs.congr (isCtx_mul [_] [] rfl))
    |>.append (.rule .mulOnes rfl (by decide) (stepF_one_mul_var "x"))
    |>.append (.flag rfl (by decide) rfl)

theorem runXabs_right :
    ReplaySteps realNum (mkMul [runK1E0, mkVar "x"])
      (runK1Evs ++ [.flag, .rule .mulFlatten, .flag])
      (.mul .reduced [.var .reduced "x", .recip .reduced (.var .reduced "x"), .var .reduced "x"]) :=
  runK1_steps.congr (isCtx_mul [] _ rfl)
    |>.append ((ReplaySteps.var "x").congr (isCtx_mul [_] [] rfl))
    |>.append (.rule .mulFlatten rfl (by decide) rfl)
    |>.append (.flag rfl (by decide) rfl)

theorem runXabs_steps : ReplaySteps realNum runXabsE0 runXabsEvs runXabsReduced :=
  runXabs_left.congr (isCtx_add [] _ rfl)
    |>.append (runXabs_right.congr (isCtx_add [_] [] rfl))
    |>.append (.flag rfl (by decide) rfl)

/-- the raw symbolic partial of `x * sin x` -/
noncomputable def runXsinE0 : Expr ℝ :=
  mkAdd [mkMul [mkConst 1, mkSin (mkVar "x")],
    mkMul [mkMul [mkCos (mkVar "x"), mkConst 1], mkVar "x"]]

noncomputable def runXsinReduced : Expr ℝ :=
  .add .reduced [.mul .reduced [.sin .reduced (.var .reduced "x")],
    .mul .reduced [.cos .reduced (.var .reduced "x"), .var .reduced "x"]]

def runXsinEvs : List StepEvent :=
  [.flag, .flag, .flag, .rule .mulOnes, .flag, .flag, .flag, .flag, .rule .mulOnes, .flag, .flag,
    .rule .mulFlatten, .flag, .flag]

theorem runXsin_one_sin :
    stepF realNum (mkMul [.const .reduced 1, .sin .reduced (.var .reduced "x")]) =
      (mkMul [.sin .reduced (.var .reduced "x")], .rule .mulOnes) := by
  rw [stepF_mul_top rfl (by decide) rfl]
  replay_step_simp

theorem runXsin_left :
    ReplaySteps realNum (mkMul [mkConst 1, mkSin (mkVar "x")])
      [.flag, .flag, .flag, .rule .mulOnes, .flag]
      (.mul .reduced [.sin .reduced (.var .reduced "x")]) :=
  (isCtx_mul [] _ rfl).const 1 (by decide)
    |>.append ((ReplaySteps.var "x").congr isCtx_sin
      |>.append (.flag rfl (by decide) rfl)
      |>.congr (isCtx_mul [_] [] rfl))
    |>.append (.rule .mulOnes rfl (by decide) runXsin_one_sin)
    |>.append (.flag rfl (by decide) rfl)

theorem stepF_cos_mul_one (y : String) :
    stepF realNum (mkMul [.cos .reduced (.var .reduced y), .const .reduced 1]) =
      (mkMul [.cos .reduced (.var .reduced y)], .rule .mulOnes) := by
  rw [stepF_mul_top rfl (by simp [vars, varsAux, varsAuxList]) rfl]
  replay_step_simp

theorem runXsin_right :
    ReplaySteps realNum (mkMul [mkMul [mkCos (mkVar "x"), mkConst 1], mkVar "x"])
      [.flag, .flag, .flag, .rule .mulOnes, .flag, .flag, .rule .mulFlatten, .flag]
      (.mul .reduced [.cos .reduced (.var .reduced "x"), .var .reduced "x"]) :=
  (ReplaySteps.var "x").congr isCtx_cos
    |>.append (.flag rfl (by decide) rfl)
    |>.congr (isCtx_mul [] _ rfl)
    |>.append ((isCtx_mul [_] [] rfl).const 1 (by decide))
    |>.append (.rule .mulOnes rfl (by decide) (stepF_cos_mul_one "x"))
    |>.append (.flag rfl (by decide) rfl)
    |>.congr (isCtx_mul [] _ rfl)
    |>.append ((ReplaySteps.var "x").congr (isCtx_mul [_] [] rfl))
    |>.append (.rule .mulFlatten rfl (by decide) rfl)
    |>.append (.flag rfl (by decide) rfl)

theorem runXsin_steps : ReplaySteps realNum runXsinE0 runXsinEvs runXsinReduced :=
  runXsin_left.congr (isCtx_add [] _ rfl)
    |>.append (runXsin_right.congr (isCtx_add [_] [] rfl))
    |>.append (.flag rfl (by decide) rfl)

theorem runK1_symFwd : symFwd realNum "x" (mkNRoot (mkNPow (mkVar "x") 2) 2 : Expr ℝ) = runK1E0 := by
  simp [symFwd, unarySymFormula, runK1E0]

theorem runK1_fullyReduce :
    fullyReduceWith realNum REDUCTION_STEPS_BOUND runK1E0 =
      ⟨runK1Reduced, false, runK1Evs.length, runK1Evs⟩ :=
  runK1_steps.fullyReduce rfl (by decide)

/-- the run does perform the rewrite `NthRoot(NthPower(·, 2), 2) ⇒ NthPower(NthRoot(·, 2), 2)` -/
theorem runK1_run_uses_nrootPow :
    StepEvent.rule .nrootPow ∈ (fullyReduce realNum runK1E0).trace := by
  rw [fullyReduce, runK1_fullyReduce]; decide

theorem runK1_normalize : normalize realNum runK1E0 = some (mkDiv (mkVar "x") (mkVar "x"), false) :=
  runK1_steps.normalize rfl (by decide) rfl

/-- `Partial(NthRoot(NthPower(x, 2), 2), "x").as_expression()` returns `Divide(x, x)` -/
theorem runK1_asExpression :
    (PartialObj.mk (mkNRoot (mkNPow (mkVar "x") 2) 2 : Expr ℝ) "x" none).asExpression realNum =
      .ok (mkDiv (mkVar "x") (mkVar "x"),
        ⟨mkNRoot (mkNPow (mkVar "x") 2) 2, "x", some (mkDiv (mkVar "x") (mkVar "x"))⟩, false) :=
  asExpression_of_normalize (runK1_symFwd ▸ runK1_normalize)

theorem fwdG_eq_den_symFwd {p : Point ℝ} {x : String} {e : Expr ℝ} (hwf : WF e) (hs : Supp p e)
    (hd : Dom (valOf p) e) : fwdG realNum p x e = .ok (den (valOf p) (symFwd realNum x e)) := by
  obtain ⟨d, hfd, _⟩ := (fwdR_spec p x e hwf).1 hs hd
  rw [hfd, (symFwd_sound p x e hwf hs hd d hfd).2.2]

theorem runK1_sroot_nine : sroot 2 ((-3 : ℝ) ^ 2) = 3 := by
  rw [show ((-3 : ℝ)) ^ 2 = 3 ^ 2 by norm_num, sroot_npow (by norm_num),
    sroot_pow_self (by norm_num) 3 (Or.inl (by norm_num))]

theorem runK1_abs_dom {ρ : String → ℝ} (h : ρ "x" ≠ 0) :
    Dom ρ (mkNRoot (mkNPow (mkVar "x") 2) 2) :=
  ⟨trivial, fun _ => pow_ne_zero 2 h, fun _ => sq_nonneg (ρ "x")⟩

theorem runK1_point_x : valOf [("x", (-3 : ℝ))] "x" = -3 := rfl

/-- at `x = -3` the expression `|x| = NthRoot(NthPower(x, 2), 2)` is defined and forward mode answers
the derivative `-1` -/
theorem runK1_true_partial :
    WF (mkNRoot (mkNPow (mkVar "x") 2) 2 : Expr ℝ) ∧
      Supp [("x", (-3 : ℝ))] (mkNRoot (mkNPow (mkVar "x") 2) 2 : Expr ℝ) ∧
      Dom (valOf [("x", (-3 : ℝ))]) (mkNRoot (mkNPow (mkVar "x") 2) 2 : Expr ℝ) ∧
      fwdG realNum [("x", (-3 : ℝ))] "x" (mkNRoot (mkNPow (mkVar "x") 2) 2 : Expr ℝ) = .ok (-1) := by
  have hwf : WF (mkNRoot (mkNPow (mkVar "x") 2) 2 : Expr ℝ) := by simp [WF]
  have hs : Supp [("x", (-3 : ℝ))] (mkNRoot (mkNPow (mkVar "x") 2) 2 : Expr ℝ) := by
    simp [Supp, Point.get?]
  have hd : Dom (valOf [("x", (-3 : ℝ))]) (mkNRoot (mkNPow (mkVar "x") 2) 2 : Expr ℝ) :=
    runK1_abs_dom (by rw [runK1_point_x]; norm_num)
  refine ⟨hwf, hs, hd, ?_⟩
  rw [fwdG_eq_den_symFwd hwf hs hd, runK1_symFwd]
  simp only [runK1E0, den, denList, valOf, Point.get?, beq_self_eq_true, if_true, Option.getD_some,
    List.prod_cons, List.prod_nil, runK1_sroot_nine]
  norm_num

/-- K1: the expression `as_expression()` returns evaluates to `+1` there -/
theorem runK1_returned_value :
    evalG realNum [("x", (-3 : ℝ))] (mkDiv (mkVar "x") (mkVar "x")) = .ok 1 := by
  refine (evalR_good _ _ (by simp [WF])).ok_iff.mpr ⟨by simp [Supp, Point.get?], ?_, ?_⟩
  · simp [Dom, den, valOf, Point.get?]
  · simp [den, valOf, Point.get?]

theorem runK1_not_refines :
    ¬ Refines (symFwd realNum "x" (mkNRoot (mkNPow (mkVar "x") 2) 2 : Expr ℝ))
      (mkDiv (mkVar "x") (mkVar "x")) := by
  intro hr
  obtain ⟨hwf, hs, hd, hfd⟩ := runK1_true_partial
  have := (refines_symFwd_facts hr hwf).2.2.2.2 _ hs hd
  rw [runK1_returned_value, hfd] at this
  injection this with this
  norm_num at this

theorem runXabs_symFwd :
    symFwd realNum "x" (mkMul [mkVar "x", mkNRoot (mkNPow (mkVar "x") 2) 2] : Expr ℝ) = runXabsE0 := by
  simp [symFwd, symFwdList, symMulTerms, symMulTermsGo, unarySymFormula, runXabsE0, runK1E0]

theorem runXabs_normalize :
    normalize realNum runXabsE0 =
      some (mkAdd [mkVar "x", mkDiv (mkMul [mkVar "x", mkVar "x"]) (mkVar "x")], false) :=
  runXabs_steps.normalize rfl (by decide) rfl

/-- `Partial(x * NthRoot(NthPower(x, 2), 2), "x").as_expression()` returns `x + (x * x) / x` -/
theorem runXabs_asExpression :
    (PartialObj.mk (mkMul [mkVar "x", mkNRoot (mkNPow (mkVar "x") 2) 2] : Expr ℝ) "x"
        none).asExpression realNum =
      .ok (mkAdd [mkVar "x", mkDiv (mkMul [mkVar "x", mkVar "x"]) (mkVar "x")],
        ⟨mkMul [mkVar "x", mkNRoot (mkNPow (mkVar "x") 2) 2], "x",
          some (mkAdd [mkVar "x", mkDiv (mkMul [mkVar "x", mkVar "x"]) (mkVar "x")])⟩, false) :=
  asExpression_of_normalize (runXabs_symFwd ▸ runXabs_normalize)

/-- at `x = -3` the expression `x·|x|` is defined and forward mode answers the derivative `6` -/
theorem runXabs_true_partial :
    WF (mkMul [mkVar "x", mkNRoot (mkNPow (mkVar "x") 2) 2] : Expr ℝ) ∧
      Supp [("x", (-3 : ℝ))] (mkMul [mkVar "x", mkNRoot (mkNPow (mkVar "x") 2) 2] : Expr ℝ) ∧
      Dom (valOf [("x", (-3 : ℝ))]) (mkMul [mkVar "x", mkNRoot (mkNPow (mkVar "x") 2) 2] : Expr ℝ) ∧
      fwdG realNum [("x", (-3 : ℝ))] "x" (mkMul [mkVar "x", mkNRoot (mkNPow (mkVar "x") 2) 2] : Expr ℝ)
        = .ok 6 := by
  have hwf : WF (mkMul [mkVar "x", mkNRoot (mkNPow (mkVar "x") 2) 2] : Expr ℝ) := by
    simp [WF, WFList]
  have hs : Supp [("x", (-3 : ℝ))] (mkMul [mkVar "x", mkNRoot (mkNPow (mkVar "x") 2) 2] : Expr ℝ) := by
    simp [Supp, SuppList, Point.get?]
  have hd : Dom (valOf [("x", (-3 : ℝ))])
      (mkMul [mkVar "x", mkNRoot (mkNPow (mkVar "x") 2) 2] : Expr ℝ) :=
    ⟨trivial, runK1_abs_dom (by rw [runK1_point_x]; norm_num), trivial⟩
  refine ⟨hwf, hs, hd, ?_⟩
  rw [fwdG_eq_den_symFwd hwf hs hd, runXabs_symFwd]
  simp only [runXabsE0, runK1E0, den, denList, valOf, Point.get?, beq_self_eq_true, if_true,
    Option.getD_some, List.prod_cons, List.prod_nil, List.sum_cons, List.sum_nil, runK1_sroot_nine]
  norm_num

/-- K1: the expression `as_expression()` returns evaluates to `-6` there -/
theorem runXabs_returned_value :
    evalG realNum [("x", (-3 : ℝ))]
      (mkAdd [mkVar "x", mkDiv (mkMul [mkVar "x", mkVar "x"]) (mkVar "x")]) = .ok (-6) := by
  refine (evalR_good _ _ (by simp [WF, WFList])).ok_iff.mpr
    ⟨by simp [Supp, SuppList, Point.get?], ?_, ?_⟩
  · simp [Dom, DomList, den, valOf, Point.get?]
  · simp [den, denList, valOf, Point.get?]; norm_num

theorem runXsin_symFwd :
    symFwd realNum "x" (mkMul [mkVar "x", mkSin (mkVar "x")] : Expr ℝ) = runXsinE0 := by
  simp [symFwd, symFwdList, symMulTerms, symMulTermsGo, unarySymFormula, runXsinE0]

theorem runXsin_normOK (fuel : Nat) : NormOK K1FreeAt REDUCTION_STEPS_BOUND fuel runXsinE0 :=
  runXsin_steps.normOK (by simp [runXsinReduced, AllFlagged, AllFlaggedList]) (by decide) (by decide)
    fuel

theorem runXsin_normalize :
    normalize realNum runXsinE0 =
      some (mkAdd [mkSin (mkVar "x"), mkMul [mkCos (mkVar "x"), mkVar "x"]], false) :=
  runXsin_steps.normalize rfl (by decide) rfl

theorem runXsin_asExpression :
    (PartialObj.mk (mkMul [mkVar "x", mkSin (mkVar "x")] : Expr ℝ) "x" none).asExpression realNum =
      .ok (mkAdd [mkSin (mkVar "x"), mkMul [mkCos (mkVar "x"), mkVar "x"]],
        ⟨mkMul [mkVar "x", mkSin (mkVar "x")], "x",
          some (mkAdd [mkSin (mkVar "x"), mkMul [mkCos (mkVar "x"), mkVar "x"]])⟩, false) :=
  asExpression_of_normalize (runXsin_symFwd ▸ runXsin_normalize)

end Smooth
