/-
Proofs/SRootMul — the sign-keeping root distributes over the product of a list, and the documented
domain of the root (`RootOK`) is closed under products.  Needed by the rewrite rule `mulNRoots`
(Proofs/RulesNary).
-/
import Smooth.Proofs.Eval

namespace Smooth

theorem sroot_list_prod {n : ℕ} (hn : 1 ≤ n) (l : List ℝ) :
    sroot n l.prod = (l.map (sroot n)).prod := by
  induction l with
  | nil => simp [sroot_one_arg]
  | cons a l ih => simp [sroot_mul hn, ih]

theorem rootOK_list_prod {n : ℕ} (l : List ℝ) (h : ∀ a ∈ l, RootOK n a) : RootOK n l.prod := by
  refine ⟨fun h2 => ?_, fun hev => ?_⟩
  · apply List.prod_ne_zero
    intro h0
    exact (h 0 h0).1 h2 rfl
  · exact List.prod_nonneg fun a ha => (h a ha).2 hev

end Smooth
