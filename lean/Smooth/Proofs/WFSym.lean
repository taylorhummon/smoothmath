/-
Proofs/WFSym — symbolic differentiation keeps well-formedness: the derivative expressions built by
`symFwd` (forward symbolic mode) and by `symRev`/`syntheticPartials` (reverse symbolic mode) of a
well-formed expression are well formed.  An instance of Proofs/SymClosed.
-/
import Smooth.Proofs.Eval
import Smooth.Proofs.Vars
import Smooth.Proofs.SymClosed

namespace Smooth
open Classical Expr

theorem WF_log_e {u : Expr ℝ} (f : Flags) (hu : WF u) : WF (.log f u realNum.e) :=
  ⟨Real.exp_pos 1, exp_one_ne_one, hu⟩

theorem WF_unarySymFormula {e m : Expr ℝ} (he : WF e) (hm : WF m) :
    WF (unarySymFormula realNum e m) := by
  cases e with
  | recip f u => exact ⟨hm, by decide, he⟩
  | npow f u n =>
    obtain ⟨hn, hu⟩ := he
    simp only [unarySymFormula]
    split
    · exact hm
    · exact ⟨trivial, ⟨by omega, hu⟩, hm, trivial⟩
  | nroot f u n =>
    have hn := he.1
    simp only [unarySymFormula]
    split
    · exact hm
    · exact ⟨hm, trivial, ⟨by omega, he⟩, trivial⟩
  | exp f u b =>
    simp only [unarySymFormula]
    split
    · trivial
    · split
      · exact ⟨he, hm, trivial⟩
      · exact ⟨WF_log_e _ trivial, he, hm, trivial⟩
  | log f u b =>
    simp only [unarySymFormula]
    split
    · exact ⟨hm, he.2.2⟩
    · exact ⟨hm, WF_log_e _ trivial, he.2.2, trivial⟩
  | cos f u => exact ⟨he, hm, trivial⟩
  | sin f u => exact ⟨he, hm, trivial⟩
  | _ => exact hm

theorem WF_symClosed : SymClosed realNum WF where
  operands {e} h := by
    cases e with
    | add f as => exact (wfList_iff _).mp h
    | mul f as => exact (wfList_iff _).mp h
    | npow f u n => exact h.2
    | nroot f u n => exact h.2
    | exp f u b => exact h.2
    | log f u b => exact h.2.2
    | _ => exact h
  const _ := trivial
  add h := (wfList_iff _).mpr h
  mul h := (wfList_iff _).mpr h
  minus hl hr := ⟨hl, hr⟩
  neg hm := hm
  unary := WF_unarySymFormula
  divLeft h hm := ⟨hm, h.2⟩
  divRight h hm := ⟨⟨h.1, by decide, h.2⟩, hm, trivial⟩
  powLeft h hm := ⟨h.2, ⟨h.1, h.2, trivial⟩, hm, trivial⟩
  powRight h hm := ⟨WF_log_e _ h.1, h, hm, trivial⟩

theorem WF_symFwd (x : String) (e : Expr ℝ) (h : WF e) : WF (symFwd realNum x e) :=
  symFwd_closed WF_symClosed x e h

theorem WF_symFwdList (x : String) : ∀ es : List (Expr ℝ), WFList es → WFList (symFwdList realNum x es) :=
  fun _ h => (wfList_iff _).mpr (symFwdList_closed WF_symClosed x ((wfList_iff _).mp h))

def SAccWF (acc : SAcc ℝ) : Prop := ∀ p ∈ acc, WF p.2

theorem SAccWF_get? {acc : SAcc ℝ} (h : SAccWF acc) {x : String} {v : Expr ℝ}
    (hv : acc.get? x = some v) : WF v :=
  h _ (SAcc.mem_of_get? hv)

theorem SAccWF_symRevList : ∀ (es : List (Expr ℝ)) (m : Expr ℝ) (acc : SAcc ℝ), WFList es → WF m →
    SAccWF acc → SAccWF (symRevList realNum es m acc) :=
  fun _ _ acc h hm ha =>
    symRevList_closed WF_symClosed WF_symClosed.mem_addTo acc ((wfList_iff _).mp h) hm ha

theorem SAccWF_symRevMul (all : List (Expr ℝ)) (m : Expr ℝ) : ∀ (i : ℕ) (es : List (Expr ℝ))
    (acc : SAcc ℝ), WFList all → WF m → WFList es → SAccWF acc →
    SAccWF (symRevMul realNum all m i es acc) :=
  fun i _ acc hall hm h ha =>
    symRevMul_closed WF_symClosed WF_symClosed.mem_addTo i acc ((wfList_iff _).mp hall) hm
      ((wfList_iff _).mp h) ha

theorem WF_syntheticPartials (e : Expr ℝ) (h : WF e) :
    ∀ p ∈ syntheticPartials realNum e, WF p.2 :=
  syntheticPartials_closed_mem WF_symClosed h

end Smooth
