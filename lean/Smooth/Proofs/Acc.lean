/-
Proofs/Acc — the dictionaries of reverse mode (`Acc`, Model/Numeric; `SAcc`, Model/Symbolic): what is
looked up after an entry has been written, and in a dictionary built from a list of names.
Mathlib-free.
-/
import Smooth.Proofs.Base

namespace Smooth
variable {α β : Type}

theorem Point.get?_map_self (f : String → β) (vs : List String) (x : String) :
    Point.get? (vs.map fun y => (y, f y)) x = if x ∈ vs then some (f x) else none := by
  induction vs with
  | nil => rfl
  | cons y vs ih =>
    simp only [List.map_cons, Point.get?_cons, ih, List.mem_cons]
    by_cases h : y = x
    · simp only [h, if_true, true_or]
    · simp only [h, if_false, Ne.symm h, false_or]

theorem Acc.get?_set (acc : Acc α) (x : String) (v : α) (y : String) :
    Acc.get? (acc.set x v) y = if x = y then some v else Acc.get? acc y := by
  induction acc with
  | nil => simp only [Acc.set, Acc.get?, Point.get?_cons]
  | cons a rest ih =>
    obtain ⟨z, w⟩ := a
    simp only [Acc.get?] at ih
    simp only [Acc.set, Acc.get?, beq_iff_eq]
    split
    · next hzx =>
      subst hzx
      simp only [Point.get?_cons]
      split
      · rfl
      · rfl
    · next hzx =>
      simp only [Point.get?_cons, ih]
      split
      · next hzy => subst hzy; rw [if_neg (Ne.symm hzx)]
      · rfl

theorem SAcc.get?_eq (acc : SAcc α) (x : String) : SAcc.get? acc x = Point.get? acc x := by
  induction acc with
  | nil => rfl
  | cons a rest ih => simp only [SAcc.get?, Point.get?, ih]

theorem SAcc.set_eq (acc : SAcc α) (x : String) (v : Expr α) : SAcc.set acc x v = Acc.set acc x v := by
  induction acc with
  | nil => rfl
  | cons a rest ih => simp only [SAcc.set, Acc.set, ih]

theorem SAcc.get?_cons (y : String) (v : Expr α) (acc : SAcc α) (x : String) :
    SAcc.get? ((y, v) :: acc) x = if y = x then some v else SAcc.get? acc x := by
  simp only [SAcc.get?, beq_iff_eq]

theorem SAcc.get?_set (acc : SAcc α) (x z : String) (v : Expr α) :
    SAcc.get? (SAcc.set acc x v) z = if z = x then some v else SAcc.get? acc z := by
  rw [SAcc.get?_eq, SAcc.get?_eq, SAcc.set_eq]
  simpa only [Acc.get?, eq_comm] using Acc.get?_set acc x v z

end Smooth
