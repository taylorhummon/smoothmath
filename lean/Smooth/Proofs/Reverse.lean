/-
Proofs/Reverse — reverse mode (`revG`, the model of `_compute_numeric_partials` with its
accumulator) over the reals: one traversal with multiplier `m` adds `m ·` (the forward-mode partial)
to the accumulator entry of every variable at once; outside the domain it answers `DomainError`.
Together with Proofs/Forward this makes every component the true partial derivative.
-/
import Smooth.Proofs.Forward
import Smooth.Proofs.Acc

namespace Smooth
open Classical

/-- accumulator entry, absent = 0 (`dict.get(name, 0)`) -/
def getA (acc : Acc ℝ) (y : String) : ℝ := (Acc.get? acc y).getD 0

theorem getA_addTo (acc : Acc ℝ) (y z : String) (m : ℝ) :
    getA (Acc.addTo realNum acc y m) z = getA acc z + (if z = y then m else 0) := by
  unfold getA Acc.addTo
  rw [Acc.get?_set]
  by_cases h : y = z
  · subst h; simp
  · simp [h, Ne.symm h]

def RevSpec (p : Point ℝ) (e : Expr ℝ) (r : R (Acc ℝ)) (m : ℝ) (acc : Acc ℝ) : Prop :=
  Spec (Supp p e) (Dom (valOf p) e) r fun acc' =>
    ∀ y d, fwdG realNum p y e = .ok d → getA acc' y = getA acc y + m * d

theorem fwd_ok_of {p : Point ℝ} {y : String} {e : Expr ℝ} (hwf : WF e)
    (hs : Supp p e) (hd : Dom (valOf p) e) : ∃ d, fwdG realNum p y e = .ok d :=
  ((fwdR_spec p y e hwf).on_domain hs hd).imp fun _ h => h.1

/-- What forward mode answers at the node is the derivative there, and so is the chain rule applied
to what it answers at the operand: the two are equal, a function having one derivative.  The same
argument serves `Divide` and `Power`. -/
theorem rev_unary_spec {p : Point ℝ} {e u : Expr ℝ} {G : ℝ → Prop} [DecidablePred G]
    {f c : ℝ → ℝ} (C : ChainRule p e u G f c) (hwf : WF e)
    (ih : WF u → ∀ m acc, RevSpec p u (revG realNum p u m acc) m acc) (m : ℝ) (acc : Acc ℝ) :
    RevSpec p e (revG realNum p e m acc) m acc := by
  rw [C.rev_eq]
  refine Spec.good_bind (evalR_good p u C.wf) C.supp.mp (fun h => ((C.dom _).mp h).1)
    fun hs hd _ => ?_
  refine Spec.guard (C.verify _) (fun h => ((C.dom _).mp h).2) fun hg => ?_
  obtain ⟨acc', hr, hacc⟩ := (ih C.wf (c (den (valOf p) u) * m) acc).on_domain hs hd
  rw [C.formula hs hd hg, R.ok_bind, hr]
  have hde := (C.dom _).mpr ⟨hd, hg⟩
  refine Spec.ok hde fun y d hfy => ?_
  obtain ⟨du, hdu, hder⟩ := (fwdR_spec p y u C.wf).on_domain hs hd
  rw [(fwdG_hasDerivAt hwf (C.supp.mpr hs) hde hfy).unique (C.hasDerivAt hg hder), hacc y du hdu]
  ring

/-- the part of `Power._compute_numeric_partials` after the short-cut test -/
noncomputable def revPowGeneralBlock (p : Point ℝ) (g : Flags) (l r : Expr ℝ) (m : ℝ)
    (acc : Acc ℝ) : R (Acc ℝ) := do
  let a ← evalG realNum p l
  let b ← evalG realNum p r
  verifyPower realNum a b
  let ml ← powFormulaLeft realNum p l r m
  let mr ← powFormulaRight realNum p (.pow g l r) l m
  let acc ← revG realNum p l ml acc
  revG realNum p r mr acc

theorem revG_pow_eq (p : Point ℝ) (g : Flags) (l r : Expr ℝ) (m : ℝ) (acc : Acc ℝ) :
    revG realNum p (.pow g l r) m acc =
      (powShortcut realNum p l >>= fun b =>
        if b then (evalG realNum p (.pow g l r) >>= fun _ => pure acc)
        else revPowGeneralBlock p g l r m acc) := by
  simp only [revG, revPowGeneralBlock]

theorem rev_pow_general (p : Point ℝ) (g : Flags) (l r : Expr ℝ) (hwf : WF (.pow g l r))
    (ih1 : ∀ m acc, RevSpec p l (revG realNum p l m acc) m acc)
    (ih2 : ∀ m acc, RevSpec p r (revG realNum p r m acc) m acc) (m : ℝ) (acc : Acc ℝ) :
    RevSpec p (.pow g l r) (revPowGeneralBlock p g l r m acc) m acc := by
  refine Spec.good_bind (evalR_good p l hwf.1) (·.1) (·.1) fun hs1 hd1 he1 => ?_
  refine Spec.good_bind (evalR_good p r hwf.2) (·.2) (·.2.1) fun hs2 hd2 he2 => ?_
  refine Spec.guard (verifyPower_real _ _) (·.2.2) fun hpos => ?_
  have hes := routes_evalG_ok hwf ⟨hs1, hs2⟩ ⟨hd1, hd2, hpos⟩
  simp only [powFormulaLeft_real he1 he2 hpos, powFormulaRight_real he1 hes hpos, rmonad]
  obtain ⟨a1, hr1, ha1⟩ := (ih1 _ acc).on_domain hs1 hd1
  obtain ⟨a2, hr2, ha2⟩ := (ih2 _ a1).on_domain hs2 hd2
  rw [hr1, R.ok_bind, hr2]
  refine Spec.ok ⟨hd1, hd2, hpos⟩ fun y d h => ?_
  obtain ⟨d1, h1, hder1⟩ := (fwdR_spec p y l hwf.1).on_domain hs1 hd1
  obtain ⟨d2, h2, hder2⟩ := (fwdR_spec p y r hwf.2).on_domain hs2 hd2
  rw [(fwdG_hasDerivAt hwf ⟨hs1, hs2⟩ ⟨hd1, hd2, hpos⟩ h).unique
    (hasDerivAt_den_pow hder1 hder2 hpos), ha2 y d2 h2, ha1 y d1 h1, Real.rpow_def_of_pos hpos,
    mul_comm (Real.log _) (_ - 1)]
  ring

/-- `Add` : the same multiplier goes to every term.  The three clauses are those of `Spec`, so that
`Spec.ok`, `Spec.seq` and `Spec.mono` apply. -/
def RevSpecL (p : Point ℝ) (es : List (Expr ℝ)) (r : R (Acc ℝ)) (m : ℝ) (acc : Acc ℝ) : Prop :=
  (SuppList p es → DomList (valOf p) es →
      ∃ acc', r = .ok acc' ∧
        ∀ y ds, fwdListG realNum p y es = .ok ds → getA acc' y = getA acc y + m * ds.sum) ∧
  (SuppList p es → ¬ DomList (valOf p) es → r = .error .domain) ∧
  (∀ err, r = .error err → err = .domain ∨ err = .missing)

/-- `Multiply` : term `k` gets `m ·` the product of all other values; `pre` are the values of the
factors already handled -/
def RevSpecM (p : Point ℝ) (pre : List ℝ) (es : List (Expr ℝ)) (r : R (Acc ℝ)) (m : ℝ)
    (acc : Acc ℝ) : Prop :=
  (SuppList p es → DomList (valOf p) es →
      ∃ acc', r = .ok acc' ∧
        ∀ y ds, fwdListG realNum p y es = .ok ds →
          getA acc' y = getA acc y + m * (pre.prod * prodDeriv ds (denList (valOf p) es))) ∧
  (SuppList p es → ¬ DomList (valOf p) es → r = .error .domain) ∧
  (∀ err, r = .error err → err = .domain ∨ err = .missing)

private theorem revR_spec_list_aux (p : Point ℝ) (es : List (Expr ℝ))
    (h : ∀ e ∈ es, WF e → ∀ m acc, RevSpec p e (revG realNum p e m acc) m acc) :
    WFList es → ∀ (m : ℝ) (acc : Acc ℝ), RevSpecL p es (revListG realNum p es m acc) m acc := by
  induction es with
  | nil =>
    intro _ m acc
    refine Spec.ok trivial fun y ds h => ?_
    cases h
    simp
  | cons e es ih =>
    intro hwf m acc
    simp only [revListG]
    refine Spec.seq (h e List.mem_cons_self hwf.1 m acc)
      (fun a => ih (fun a ha => h a (List.mem_cons_of_mem _ ha)) hwf.2 m a) id Iff.rfl
      fun a b ha hb y ds hf => ?_
    obtain ⟨d, ds', h1, h2, rfl⟩ := fwdListG_cons_ok hf
    rw [hb y ds' h2, ha y d h1, List.sum_cons]
    ring

private theorem revR_spec_mul_aux (p : Point ℝ) (es : List (Expr ℝ))
    (h : ∀ e ∈ es, WF e → ∀ m acc, RevSpec p e (revG realNum p e m acc) m acc) :
    ∀ pre : List ℝ, WFList es → ∀ (m : ℝ) (acc : Acc ℝ),
      RevSpecM p pre es
        (revMulG realNum p (pre ++ denList (valOf p) es) m pre.length es acc) m acc := by
  induction es with
  | nil =>
    intro pre _ m acc
    refine Spec.ok trivial fun y ds h => ?_
    cases h
    simp [prodDeriv]
  | cons e es ih =>
    intro pre hwf m acc
    have ih := fun a => ih (fun a ha => h a (List.mem_cons_of_mem _ ha))
      (pre ++ [den (valOf p) e]) hwf.2 m a
    simp only [List.append_assoc, List.singleton_append, List.length_append,
      List.length_singleton] at ih
    simp only [revMulG, denList]
    refine Spec.seq (h e List.mem_cons_self hwf.1 _ acc) ih id Iff.rfl
      fun a b ha hb y ds hf => ?_
    obtain ⟨d, ds', h1, h2, rfl⟩ := fwdListG_cons_ok hf
    rw [hb y ds' h2, ha y d h1, List.eraseIdx_append_of_length_le (le_refl _)]
    simp only [Nat.sub_self, List.eraseIdx_cons_zero, mfMultiply_real, List.prod_cons,
      List.prod_append, List.prod_nil, mul_one, prodDeriv, denList]
    ring

theorem revR_spec (p : Point ℝ) (e : Expr ℝ) (hwf : WF e) (m : ℝ) (acc : Acc ℝ) :
    RevSpec p e (revG realNum p e m acc) m acc := by
  induction e using Expr.ind generalizing m acc with
  | const f v =>
    refine Spec.ok trivial fun y d h => ?_
    cases h
    simp
  | var f z =>
    refine Spec.ok trivial fun y d h => ?_
    rw [getA_addTo]
    simp only [fwdG, beq_iff_eq, realNum_zero, realNum_one, rmonad] at h
    split at h
    · next hzy => cases h; simp [hzy]
    · next hzy => cases h; simp [Ne.symm hzy]
  | add f as ih =>
    simp only [revG]
    refine Spec.mono (revR_spec_list_aux p as ih hwf m acc) fun acc' hacc y d h => ?_
    simp only [fwdG] at h
    obtain ⟨ds, hds, h⟩ := R.bind_eq_ok_iff.mp h
    cases h
    rw [mfAdd_real]
    exact hacc y ds hds
  | mul f as ih =>
    simp only [revG]
    refine Spec.good_bind (evalR_good_list p as hwf) id id fun hs hd hev => ?_
    refine Spec.mono (revR_spec_mul_aux p as ih [] hwf m acc) fun acc' hacc y d h => ?_
    simp only [fwdG, hev, rmonad] at h
    obtain ⟨ds, hds, h⟩ := R.bind_eq_ok_iff.mp h
    cases h
    rw [mulTerms_sum ds _ (by rw [fwdListG_length _ _ _ _ hds, denList_eq_map, List.length_map])]
    simpa using hacc y ds hds
  | minus f l r ihl ihr =>
    simp only [revG, mfNegation_real]
    refine Spec.seq (ihl hwf.1 m acc) (fun a => ihr hwf.2 (-m) a) id Iff.rfl
      fun a b ha hb y d h => ?_
    simp only [fwdG] at h
    obtain ⟨d1, h1, h⟩ := R.bind_eq_ok_iff.mp h
    obtain ⟨d2, h2, h⟩ := R.bind_eq_ok_iff.mp h
    cases h
    rw [hb y d2 h2, ha y d1 h1, mfMinus_real]
    ring
  | div g l r ihl ihr =>
    simp only [revG]
    refine Spec.good_bind (evalR_good p l hwf.1) (·.1) (·.1) fun hs1 hd1 he1 => ?_
    refine Spec.good_bind (evalR_good p r hwf.2) (·.2) (·.2.1) fun hs2 hd2 he2 => ?_
    refine Spec.guard (verifyDivide_real _ _) (·.2.2) fun hz => ?_
    simp only [divFormulaLeft_real he2 hz, divFormulaRight_real he1 he2 hz, rmonad]
    obtain ⟨a1, hr1, ha1⟩ := (ihl hwf.1 _ acc).on_domain hs1 hd1
    obtain ⟨a2, hr2, ha2⟩ := (ihr hwf.2 _ a1).on_domain hs2 hd2
    rw [hr1, R.ok_bind, hr2]
    refine Spec.ok ⟨hd1, hd2, hz⟩ fun y d h => ?_
    obtain ⟨d1, h1, hder1⟩ := (fwdR_spec p y l hwf.1).on_domain hs1 hd1
    obtain ⟨d2, h2, hder2⟩ := (fwdR_spec p y r hwf.2).on_domain hs2 hd2
    rw [(fwdG_hasDerivAt hwf ⟨hs1, hs2⟩ ⟨hd1, hd2, hz⟩ h).unique
      (hasDerivAt_den_div hder1 hder2 hz), ha2 y d2 h2, ha1 y d1 h1]
    field_simp
    ring
  | pow g l r ihl ihr =>
    rw [revG_pow_eq]
    refine Spec.shortcut hwf.1 (·.1) (·.1) (fun _ _ hsc => ?_) fun _ =>
      rev_pow_general p g l r hwf (ihl hwf.1) (ihr hwf.2) m acc
    -- forward mode takes the same short-cut
    refine Spec.good_bind (evalR_good p _ hwf) id id fun _ hd hes => Spec.ok hd fun y d h => ?_
    simp only [fwdG_pow_eq, hsc, hes, if_true, realNum_zero, rmonad] at h
    cases h
    simp
  | neg g u ih => exact rev_unary_spec (chainRule_neg hwf) hwf ih m acc
  | recip g u ih => exact rev_unary_spec (chainRule_recip hwf) hwf ih m acc
  | npow g u n ih => exact rev_unary_spec (chainRule_npow hwf) hwf ih m acc
  | nroot g u n ih => exact rev_unary_spec (chainRule_nroot hwf) hwf ih m acc
  | exp g u b ih => exact rev_unary_spec (chainRule_exp hwf) hwf ih m acc
  | log g u b ih => exact rev_unary_spec (chainRule_log hwf) hwf ih m acc
  | cos g u ih => exact rev_unary_spec (chainRule_cos hwf) hwf ih m acc
  | sin g u ih => exact rev_unary_spec (chainRule_sin hwf) hwf ih m acc

theorem revR_spec_list (p : Point ℝ) : ∀ es : List (Expr ℝ), WFList es → ∀ (m : ℝ) (acc : Acc ℝ),
    RevSpecL p es (revListG realNum p es m acc) m acc :=
  fun es => revR_spec_list_aux p es fun e _ => revR_spec p e

theorem revR_spec_mul (p : Point ℝ) : ∀ (pre : List ℝ) (es : List (Expr ℝ)), WFList es →
    ∀ (m : ℝ) (acc : Acc ℝ),
    RevSpecM p pre es
      (revMulG realNum p (pre ++ denList (valOf p) es) m pre.length es acc) m acc :=
  fun pre es => revR_spec_mul_aux p es (fun e _ => revR_spec p e) pre

end Smooth
