/-
Proofs/Base — what every proof about the model starts from.  Mathlib-free.

`Expr` is a nested inductive (`add`/`mul` carry a `List (Expr α)`), so a theorem proved by its own
structural recursion has to be a `mutual` block with a companion about lists, and Lean compiles each
such block through the auxiliary recursors of the nested type, which is slow.  `Expr.ind` pays that
price once: it is the induction principle with the list hypothesis in the form `∀ a ∈ as, motive a`,
and every traversal of an expression in this development is an `induction e using Expr.ind`.
-/
import Smooth.Model.Driver
import Smooth.Proofs.Attr

namespace Smooth
variable {α β γ : Type}

theorem Expr.ind {motive : Expr α → Prop}
    (const : ∀ f v, motive (.const f v)) (var : ∀ f x, motive (.var f x))
    (add : ∀ f as, (∀ a ∈ as, motive a) → motive (.add f as))
    (minus : ∀ f l r, motive l → motive r → motive (.minus f l r))
    (neg : ∀ f u, motive u → motive (.neg f u))
    (mul : ∀ f as, (∀ a ∈ as, motive a) → motive (.mul f as))
    (div : ∀ f l r, motive l → motive r → motive (.div f l r))
    (recip : ∀ f u, motive u → motive (.recip f u))
    (pow : ∀ f l r, motive l → motive r → motive (.pow f l r))
    (npow : ∀ f u n, motive u → motive (.npow f u n))
    (nroot : ∀ f u n, motive u → motive (.nroot f u n))
    (exp : ∀ f u b, motive u → motive (.exp f u b))
    (log : ∀ f u b, motive u → motive (.log f u b))
    (cos : ∀ f u, motive u → motive (.cos f u))
    (sin : ∀ f u, motive u → motive (.sin f u)) : ∀ e, motive e :=
  @Expr.rec α motive (fun l => ∀ a ∈ l, motive a) const var add minus neg mul div recip pow npow
    nroot exp log cos sin (fun _ h => nomatch h)
    (fun _ _ hh ht a ha => by
      rcases List.mem_cons.mp ha with rfl | ha
      · exact hh
      · exact ht a ha)

@[rmonad] theorem R.ok_bind (a : α) (k : α → R β) : ((.ok a : R α) >>= k) = k a := rfl
@[rmonad] theorem R.error_bind (e : Err) (k : α → R β) : ((.error e : R α) >>= k) = .error e := rfl
@[rmonad] theorem R.pure_eq (a : α) : (pure a : R α) = .ok a := rfl
@[rmonad] theorem R.throw_eq (e : Err) : (throw e : R α) = .error e := rfl

theorem R.bind_eq_ok_iff {x : R α} {k : α → R β} {b : β} :
    x >>= k = .ok b ↔ ∃ a, x = .ok a ∧ k a = .ok b := by
  cases x <;> simp [rmonad]

theorem R.bind_eq_error_iff {x : R α} {k : α → R β} {e : Err} :
    x >>= k = .error e ↔ x = .error e ∨ ∃ a, x = .ok a ∧ k a = .error e := by
  cases x <;> simp [rmonad]

theorem freshList_eq_map (es : List (Expr α)) : Expr.freshList es = es.map Expr.fresh := by
  induction es with
  | nil => rfl
  | cons e es ih => rw [Expr.freshList, ih, List.map_cons]

theorem Expr.fresh_setFlags (g : Flags) (e : Expr α) : (e.setFlags g).fresh = e.fresh := by
  cases e <;> rfl

theorem evalListG_fresh_of (N : Num α) (p : Point α) {es : List (Expr α)}
    (h : ∀ a ∈ es, evalG N p a.fresh = evalG N p a) :
    evalListG N p (Expr.freshList es) = evalListG N p es := by
  induction es with
  | nil => rfl
  | cons e es ih =>
    simp only [Expr.freshList, evalListG, h e List.mem_cons_self,
      ih fun a ha => h a (List.mem_cons_of_mem _ ha)]

open Expr in
theorem evalG_fresh (N : Num α) (p : Point α) (e : Expr α) : evalG N p e.fresh = evalG N p e := by
  induction e using Expr.ind with
  | const | var => rfl
  | add f as ih | mul f as ih =>
    simp only [Expr.fresh, mkAdd, mkMul, evalG, evalListG_fresh_of N p ih]
  | minus f l r ihl ihr | div f l r ihl ihr | pow f l r ihl ihr =>
    simp only [Expr.fresh, mkMinus, mkDiv, mkPow, evalG, ihl, ihr]
  | neg f u ih | recip f u ih | npow f u n ih | nroot f u n ih | exp f u b ih | log f u b ih
  | cos f u ih | sin f u ih =>
    simp only [Expr.fresh, mkNeg, mkRecip, mkNPow, mkNRoot, mkExp, mkLog, mkCos, mkSin, evalG, ih]

theorem evalListG_fresh (N : Num α) (p : Point α) : ∀ es : List (Expr α),
    evalListG N p (Expr.freshList es) = evalListG N p es :=
  fun _ => evalListG_fresh_of N p fun a _ => evalG_fresh N p a

theorem evalG_congr_fresh (N : Num α) (p : Point α) {u w : Expr α} (h : u.fresh = w.fresh) :
    evalG N p u = evalG N p w := by
  rw [← evalG_fresh N p u, ← evalG_fresh N p w, h]

theorem evalG_setFlags (N : Num α) (p : Point α) (g : Flags) (e : Expr α) :
    evalG N p (e.setFlags g) = evalG N p e :=
  evalG_congr_fresh N p (Expr.fresh_setFlags g e)

theorem Point.get?_cons (y : String) (v : α) (p : Point α) (x : String) :
    Point.get? ((y, v) :: p) x = if y = x then some v else Point.get? p x := by
  simp only [Point.get?, beq_iff_eq]

theorem asConst_some_iff {e : Expr α} {v : α} : asConst e = some v ↔ ∃ f, e = .const f v := by
  cases e <;> simp [asConst]
theorem asAdd_some_iff {e : Expr α} {as : List (Expr α)} : asAdd e = some as ↔ ∃ f, e = .add f as := by
  cases e <;> simp [asAdd]
theorem asMul_some_iff {e : Expr α} {as : List (Expr α)} : asMul e = some as ↔ ∃ f, e = .mul f as := by
  cases e <;> simp [asMul]
theorem asNeg_some_iff {e u : Expr α} : asNeg e = some u ↔ ∃ f, e = .neg f u := by
  cases e <;> simp [asNeg]
theorem asRecip_some_iff {e u : Expr α} : asRecip e = some u ↔ ∃ f, e = .recip f u := by
  cases e <;> simp [asRecip]
theorem asLog_some_iff {e u : Expr α} {b : α} : asLog e = some (b, u) ↔ ∃ f, e = .log f u b := by
  cases e <;> simp [asLog, and_comm]
theorem asExp_some_iff {e u : Expr α} {b : α} : asExp e = some (b, u) ↔ ∃ f, e = .exp f u b := by
  cases e <;> simp [asExp, and_comm]
theorem asNPow_some_iff {e u : Expr α} {n : Nat} : asNPow e = some (n, u) ↔ ∃ f, e = .npow f u n := by
  cases e <;> simp [asNPow, and_comm]
theorem asNRoot_some_iff {e u : Expr α} {n : Nat} :
    asNRoot e = some (n, u) ↔ ∃ f, e = .nroot f u n := by
  cases e <;> simp [asNRoot, and_comm]

theorem isConstSuch_eq_true {pred : α → Bool} {e : Expr α} :
    isConstSuch pred e = true ↔ ∃ f v, e = .const f v ∧ pred v = true := by
  cases e <;> simp [isConstSuch, asConst]
  exact ⟨fun h => ⟨_, _, ⟨rfl, rfl⟩, h⟩, fun ⟨_, _, ⟨_, h⟩, hp⟩ => h ▸ hp⟩

theorem firstRule_eq_some {N : Num α} {e e' : Expr α} {r : RuleId} :
    ∀ {rs : List RuleId}, firstRule N e rs = some (r, e') → r.apply N e = some e' ∧ r ∈ rs
  | [], h => nomatch h
  | r' :: rs, h => by
    simp only [firstRule] at h
    split at h
    · next e'' he =>
      obtain ⟨rfl, rfl⟩ := Prod.mk.inj (Option.some.inj h)
      exact ⟨he, List.mem_cons_self⟩
    · exact ⟨(firstRule_eq_some h).1, List.mem_cons_of_mem _ (firstRule_eq_some h).2⟩

theorem firstRule_none (N : Num α) (e : Expr α) :
    ∀ rs, firstRule N e rs = none → ∀ r ∈ rs, r.apply N e = none
  | [], _, r, hr => nomatch hr
  | r0 :: rs, h, r, hr => by
    unfold firstRule at h
    split at h
    · cases h
    · next h0 =>
      rcases List.mem_cons.mp hr with rfl | hr
      · exact h0
      · exact firstRule_none N e rs h r hr

end Smooth
