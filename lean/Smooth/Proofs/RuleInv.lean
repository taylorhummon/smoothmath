/-
Proofs/RuleInv — the rewrite rules of Model/Rules.lean read backwards.  Mathlib-free.

For each of the 46 rules, `ruleX_eq_some` says exactly when the rule fires and what it returns:
the shape of the input (the flags the patterns ignore are existentially bound), the side
condition, and the output.  The two list operations of the n-ary rules, `spliceFirst` and
`consolidate`, are specified the same way, and `group_by_key` by an induction principle and a
permutation.  `rule_closed` is the first consequence: a property that nodes hand down to their
operands and that freshly built nodes inherit from theirs survives every rule.
-/
import Smooth.Proofs.Shape

namespace Smooth
open Expr
variable {α : Type}

theorem spliceFirst_eq_some {sel : Expr α → Option (List (Expr α))} {as as' : List (Expr α)} :
    spliceFirst sel as = some as' ↔ ∃ pre e inner post, as = pre ++ e :: post ∧
      (∀ a ∈ pre, sel a = none) ∧ sel e = some inner ∧ as' = pre ++ inner ++ post := by
  constructor
  · intro h
    induction as generalizing as' with
    | nil => cases h
    | cons a as ih =>
      simp only [spliceFirst] at h
      split at h
      · next inner hs => exact ⟨[], a, inner, as, rfl, nofun, hs, (Option.some.inj h).symm⟩
      · next hs =>
        obtain ⟨r, hr, rfl⟩ := Option.map_eq_some_iff.mp h
        obtain ⟨pre, e, inner, post, rfl, hpre, he, rfl⟩ := ih hr
        exact ⟨a :: pre, e, inner, post, rfl, List.forall_mem_cons.mpr ⟨hs, hpre⟩, he, rfl⟩
  · rintro ⟨pre, e, inner, post, rfl, hpre, he, rfl⟩
    induction pre with
    | nil => simp only [spliceFirst, he, List.nil_append]
    | cons b pre ih =>
      rw [List.forall_mem_cons] at hpre
      simp only [List.cons_append, spliceFirst, hpre.1, ih hpre.2, Option.map_some]

theorem spliceFirst_forall {P : Expr α → Prop} {sel : Expr α → Option (List (Expr α))}
    (hsel : ∀ e inner, sel e = some inner → P e → ∀ a ∈ inner, P a) {as as' : List (Expr α)}
    (h : spliceFirst sel as = some as') (hP : ∀ a ∈ as, P a) : ∀ a ∈ as', P a := by
  obtain ⟨pre, e, inner, post, rfl, -, he, rfl⟩ := spliceFirst_eq_some.mp h
  simp only [List.forall_mem_append, List.forall_mem_cons] at hP ⊢
  exact ⟨⟨hP.1, hsel e inner he hP.2.1⟩, hP.2.2⟩

/-! ### `groupByKey`

A group keeps the key `k'` of the item that opened it; a later item `(k, v)` joins the first group
with `eq k' k`.  Nothing is assumed of `eq` (`Num.eq` of an arbitrary instance need not be an
equivalence), so a member's own key is only known to test equal to the key of its group. -/

section groups
variable {κ β γ : Type} {eq : κ → κ → Bool}

theorem groupInsert_forall {Q : κ → List β → Prop} {k : κ} {v : β} (new : Q k [v])
    (join : ∀ k' vs, Q k' vs → eq k' k = true → Q k' (vs ++ [v])) {G : List (κ × List β)}
    (hG : ∀ g ∈ G, Q g.1 g.2) : ∀ g ∈ groupInsert eq k v G, Q g.1 g.2 := by
  induction G with
  | nil => simpa [groupInsert] using new
  | cons g G ih =>
    rw [List.forall_mem_cons] at hG
    simp only [groupInsert]
    split
    · next hk => exact List.forall_mem_cons.mpr ⟨join _ _ hG.1 hk, hG.2⟩
    · exact List.forall_mem_cons.mpr ⟨hG.1, ih hG.2⟩

theorem groupByKey_induction {Q : κ → List β → Prop} {items : List (κ × β)}
    (new : ∀ kv ∈ items, Q kv.1 [kv.2])
    (join : ∀ k vs, Q k vs → ∀ kv ∈ items, eq k kv.1 = true → Q k (vs ++ [kv.2])) :
    ∀ g ∈ groupByKey eq items, Q g.1 g.2 := by
  suffices ∀ G : List (κ × List β), (∀ g ∈ G, Q g.1 g.2) →
      ∀ g ∈ items.foldl (fun G kv => groupInsert eq kv.1 kv.2 G) G, Q g.1 g.2 from this [] nofun
  induction items with
  | nil => exact fun G hG => hG
  | cons kv items ih =>
    intro G hG
    rw [List.forall_mem_cons] at new
    exact ih new.2 (fun k vs h kv' hkv' => join k vs h kv' (List.mem_cons_of_mem _ hkv')) _
      (groupInsert_forall new.1 (fun k vs h => join k vs h kv List.mem_cons_self) hG)

theorem groupByKey_head {items : List (κ × β)} :
    ∀ g ∈ groupByKey eq items, ∃ v vs, g.2 = v :: vs ∧ (g.1, v) ∈ items :=
  groupByKey_induction (Q := fun k l => ∃ v vs, l = v :: vs ∧ (k, v) ∈ items)
    (fun kv hkv => ⟨kv.2, [], rfl, hkv⟩)
    (fun _ _ ⟨v, vs, hl, hv⟩ kv _ _ => ⟨v, vs ++ [kv.2], by rw [hl, List.cons_append], hv⟩)

theorem groupByKey_ne_nil {items : List (κ × β)} {g : κ × List β} (hg : g ∈ groupByKey eq items) :
    g.2 ≠ [] := by
  obtain ⟨v, vs, h, _⟩ := groupByKey_head g hg
  simp [h]

theorem groupByKey_key {items : List (κ × β)} {g : κ × List β} (hg : g ∈ groupByKey eq items) :
    ∃ kv ∈ items, kv.1 = g.1 := by
  obtain ⟨v, _, _, h⟩ := groupByKey_head g hg
  exact ⟨_, h, rfl⟩

theorem groupByKey_member {items : List (κ × β)} :
    ∀ g ∈ groupByKey eq items, ∀ v ∈ g.2, ∃ k, (k, v) ∈ items ∧ (g.1 = k ∨ eq g.1 k = true) :=
  groupByKey_induction (Q := fun k' l => ∀ v ∈ l, ∃ k, (k, v) ∈ items ∧ (k' = k ∨ eq k' k = true))
    (fun kv hkv v hv => by
      obtain rfl := List.mem_singleton.mp hv
      exact ⟨kv.1, hkv, .inl rfl⟩)
    (fun k' vs ih kv hkv hk v hv => by
      rcases List.mem_append.mp hv with hv | hv
      · exact ih v hv
      · obtain rfl := List.mem_singleton.mp hv
        exact ⟨kv.1, hkv, .inr hk⟩)

theorem groupInsert_flatMap_perm {h : κ → β → γ} (hh : ∀ k k' v, eq k' k = true → h k' v = h k v)
    (k : κ) (v : β) (G : List (κ × List β)) :
    ((groupInsert eq k v G).flatMap fun g => g.2.map (h g.1)).Perm
      ((G.flatMap fun g => g.2.map (h g.1)) ++ [h k v]) := by
  induction G with
  | nil => simp [groupInsert]
  | cons g G ih =>
    simp only [groupInsert]
    split
    · next hk =>
      simp only [List.flatMap_cons, List.map_append, List.map_cons, List.map_nil, hh k g.1 v hk,
        List.append_assoc]
      exact List.perm_append_comm.append_left _
    · simp only [List.flatMap_cons, List.append_assoc]
      exact ih.append_left _

/-- `h := fun _ v => v` needs no proviso; `h := Prod.mk` would need `eq k' k = true → k' = k`. -/
theorem groupByKey_flatMap_perm {h : κ → β → γ} (hh : ∀ k k' v, eq k' k = true → h k' v = h k v)
    (items : List (κ × β)) :
    ((groupByKey eq items).flatMap fun g => g.2.map (h g.1)).Perm
      (items.map fun kv => h kv.1 kv.2) := by
  suffices ∀ G : List (κ × List β),
      ((items.foldl (fun G kv => groupInsert eq kv.1 kv.2 G) G).flatMap fun g =>
        g.2.map (h g.1)).Perm
        ((G.flatMap fun g => g.2.map (h g.1)) ++ items.map fun kv => h kv.1 kv.2) from this []
  induction items with
  | nil => simp
  | cons kv items ih =>
    intro G
    refine (ih _).trans (((groupInsert_flatMap_perm hh kv.1 kv.2 G).append_right _).trans ?_)
    simp

theorem groupByKey_values_perm (items : List (κ × β)) :
    ((groupByKey eq items).flatMap (·.2)).Perm (items.map (·.2)) := by
  simpa using groupByKey_flatMap_perm (h := fun _ v => v) (fun _ _ _ _ => rfl) items

end groups

section consolidate
variable {κ : Type} {sel : Expr α → Option (κ × Expr α)} {eq : κ → κ → Bool}
  {build : κ → List (Expr α) → Expr α} {as as' : List (Expr α)}

theorem consolidate_eq_some :
    consolidate sel eq build as = some as' ↔
      1 < (as.filterMap sel).length ∧ (∃ g ∈ groupByKey eq (as.filterMap sel), 1 < g.2.length) ∧
      as' = as.filter (fun e => (sel e).isNone) ++
        (groupByKey eq (as.filterMap sel)).map fun g => build g.1 g.2 := by
  simp [consolidate, eq_comm (a := as')]

theorem mem_of_consolidate (h : consolidate sel eq build as = some as') {a : Expr α}
    (ha : a ∈ as') : (a ∈ as ∧ sel a = none) ∨
      ∃ k us, a = build k us ∧ us ≠ [] ∧ (∃ b ∈ as, ∃ u, sel b = some (k, u)) ∧
        ∀ u ∈ us, ∃ b ∈ as, ∃ k', sel b = some (k', u) ∧ (k = k' ∨ eq k k' = true) := by
  obtain ⟨-, -, rfl⟩ := consolidate_eq_some.mp h
  rcases List.mem_append.mp ha with ha | ha
  · exact .inl (by simpa using ha)
  · obtain ⟨g, hg, rfl⟩ := List.mem_map.mp ha
    refine .inr ⟨g.1, g.2, rfl, groupByKey_ne_nil hg, ?_, fun u hu => ?_⟩
    · obtain ⟨kv, hkv, hk⟩ := groupByKey_key hg
      obtain ⟨b, hb, hs⟩ := List.mem_filterMap.mp hkv
      exact ⟨b, hb, kv.2, by rw [hs, ← hk]⟩
    · obtain ⟨k', hkv, hk⟩ := groupByKey_member g hg u hu
      obtain ⟨b, hb, hs⟩ := List.mem_filterMap.mp hkv
      exact ⟨b, hb, k', hs, hk⟩

theorem consolidate_forall {P : Expr α → Prop} (hsel : ∀ b k u, sel b = some (k, u) → P b → P u)
    (hbuild : ∀ k us, (∃ b ∈ as, ∃ u, sel b = some (k, u)) → (∀ u ∈ us, P u) → P (build k us))
    (h : consolidate sel eq build as = some as') (hP : ∀ a ∈ as, P a) : ∀ a ∈ as', P a := by
  intro a ha
  rcases mem_of_consolidate h ha with ⟨ha, -⟩ | ⟨k, us, rfl, -, hk, hus⟩
  · exact hP a ha
  · refine hbuild k us hk fun u hu => ?_
    obtain ⟨b, hb, k', hs, -⟩ := hus u hu
    exact hsel b k' u hs (hP b hb)

end consolidate

section rules
variable {N : Num α} {e e' : Expr α}

theorem ruleAddFlatten_eq_some : ruleAddFlatten e = some e' ↔
    ∃ f as as', e = .add f as ∧ spliceFirst asAdd as = some as' ∧ e' = mkAdd as' := by
  constructor
  · intro h
    unfold ruleAddFlatten at h
    split at h
    · obtain ⟨as', hs, rfl⟩ := Option.map_eq_some_iff.mp h
      exact ⟨_, _, as', rfl, hs, rfl⟩
    · cases h
  · rintro ⟨f, as, as', rfl, hs, rfl⟩
    simp [ruleAddFlatten, hs]

theorem ruleAddZeros_eq_some : ruleAddZeros N e = some e' ↔
    ∃ f as, e = .add f as ∧ (∃ a ∈ as, isConstSuch N.isZero a = true) ∧
      e' = mkAdd (as.filter fun a => !isConstSuch N.isZero a) := by
  constructor
  · intro h
    unfold ruleAddZeros at h
    split at h
    · simp only [Option.ite_none_left_eq_some, Option.some.injEq] at h
      exact ⟨_, _, rfl, by simpa using h.1, h.2.symm⟩
    · cases h
  · rintro ⟨f, as, rfl, ⟨a, ha, hz⟩, rfl⟩
    simp only [ruleAddZeros, Option.ite_none_left_eq_some, and_true]
    exact fun h => by simpa [hz] using List.length_filter_eq_length_iff.mp h a ha

theorem ruleAddLogs_eq_some : ruleAddLogs N e = some e' ↔
    ∃ f as as', e = .add f as ∧
      consolidate asLog N.eq (fun b inners => mkLog (mkMul inners) b) as = some as' ∧
      e' = mkAdd as' := by
  constructor
  · intro h
    unfold ruleAddLogs at h
    split at h
    · obtain ⟨as', hs, rfl⟩ := Option.map_eq_some_iff.mp h
      exact ⟨_, _, as', rfl, hs, rfl⟩
    · cases h
  · rintro ⟨f, as, as', rfl, hs, rfl⟩
    simp [ruleAddLogs, hs]

theorem ruleAddConsts_eq_some : ruleAddConsts N e = some e' ↔
    ∃ f as, e = .add f as ∧ 1 < (as.filterMap asConst).length ∧
      e' = mkAdd (as.filter (fun a => (asConst a).isNone) ++
        [mkConst (mfAdd N (as.filterMap asConst))]) := by
  constructor
  · intro h
    unfold ruleAddConsts at h
    split at h
    · simp only [Option.ite_none_left_eq_some, Nat.not_le, Option.some.injEq] at h
      exact ⟨_, _, rfl, h.1, h.2.symm⟩
    · cases h
  · rintro ⟨f, as, rfl, h, rfl⟩
    simp [ruleAddConsts, Nat.not_le.mpr h]

theorem ruleMinusToSum_eq_some : ruleMinusToSum e = some e' ↔
    ∃ f l r, e = .minus f l r ∧ e' = mkAdd [l, mkNeg r] := by
  constructor
  · intro h
    unfold ruleMinusToSum at h
    split at h
    · exact ⟨_, _, _, rfl, (Option.some.inj h).symm⟩
    · cases h
  · rintro ⟨f, l, r, rfl, rfl⟩
    rfl

theorem ruleNegNeg_eq_some : ruleNegNeg e = some e' ↔ ∃ f g, e = .neg f (.neg g e') := by
  constructor
  · intro h
    unfold ruleNegNeg at h
    split at h
    · cases h
      exact ⟨_, _, rfl⟩
    · cases h
  · rintro ⟨f, g, rfl⟩
    rfl

theorem ruleNegSum_eq_some : ruleNegSum e = some e' ↔
    ∃ f g as, e = .neg f (.add g as) ∧ e' = mkAdd (as.map mkNeg) := by
  constructor
  · intro h
    unfold ruleNegSum at h
    split at h
    · exact ⟨_, _, _, rfl, (Option.some.inj h).symm⟩
    · cases h
  · rintro ⟨f, g, as, rfl, rfl⟩
    rfl

theorem ruleMulFlatten_eq_some : ruleMulFlatten e = some e' ↔
    ∃ f as as', e = .mul f as ∧ spliceFirst asMul as = some as' ∧ e' = mkMul as' := by
  constructor
  · intro h
    unfold ruleMulFlatten at h
    split at h
    · obtain ⟨as', hs, rfl⟩ := Option.map_eq_some_iff.mp h
      exact ⟨_, _, as', rfl, hs, rfl⟩
    · cases h
  · rintro ⟨f, as, as', rfl, hs, rfl⟩
    simp [ruleMulFlatten, hs]

theorem ruleMulZero_eq_some : ruleMulZero N e = some e' ↔
    ∃ f as, e = .mul f as ∧ (∃ a ∈ as, isConstSuch N.isZero a = true) ∧ e' = mkConst N.zero := by
  constructor
  · intro h
    unfold ruleMulZero at h
    split at h
    · simp only [Option.ite_none_right_eq_some, Option.some.injEq, List.any_eq_true] at h
      exact ⟨_, _, rfl, h.1, h.2.symm⟩
    · cases h
  · rintro ⟨f, as, rfl, h, rfl⟩
    simp [ruleMulZero, List.any_eq_true.mpr h]

theorem ruleMulOnes_eq_some : ruleMulOnes N e = some e' ↔
    ∃ f as, e = .mul f as ∧ (∃ a ∈ as, isConstSuch (fun v => N.eq v N.one) a = true) ∧
      e' = mkMul (as.filter fun a => !isConstSuch (fun v => N.eq v N.one) a) := by
  constructor
  · intro h
    unfold ruleMulOnes at h
    split at h
    · simp only [Option.ite_none_left_eq_some, Option.some.injEq] at h
      exact ⟨_, _, rfl, by simpa using h.1, h.2.symm⟩
    · cases h
  · rintro ⟨f, as, rfl, ⟨a, ha, hz⟩, rfl⟩
    simp only [ruleMulOnes, Option.ite_none_left_eq_some, and_true]
    exact fun h => by simpa [hz] using List.length_filter_eq_length_iff.mp h a ha

theorem ruleMulNegs_eq_some : ruleMulNegs N e = some e' ↔
    ∃ f as, e = .mul f as ∧ as.filterMap asNeg ≠ [] ∧
      e' = if (as.filterMap asNeg).length % 2 = 0
        then mkMul (as.filter (fun a => (asNeg a).isNone) ++ as.filterMap asNeg)
        else mkMul (as.filter (fun a => (asNeg a).isNone) ++ as.filterMap asNeg ++
          [mkConst N.negOne]) := by
  constructor
  · intro h
    unfold ruleMulNegs at h
    split at h
    · simp only [Option.ite_none_left_eq_some, List.length_eq_zero_iff, ← apply_ite some,
        Option.some.injEq] at h
      exact ⟨_, _, rfl, h.1, h.2.symm⟩
    · cases h
  · rintro ⟨f, as, rfl, h, rfl⟩
    simp only [ruleMulNegs, List.length_eq_zero_iff, if_neg h]
    split <;> rfl

theorem ruleMulNPows_eq_some : ruleMulNPows e = some e' ↔
    ∃ f as as', e = .mul f as ∧
      consolidate asNPow (fun a b => a == b) (fun n inners => mkNPow (mkMul inners) n) as =
        some as' ∧
      e' = mkMul as' := by
  constructor
  · intro h
    unfold ruleMulNPows at h
    split at h
    · obtain ⟨as', hs, rfl⟩ := Option.map_eq_some_iff.mp h
      exact ⟨_, _, as', rfl, hs, rfl⟩
    · cases h
  · rintro ⟨f, as, as', rfl, hs, rfl⟩
    simp [ruleMulNPows, hs]

theorem ruleMulNRoots_eq_some : ruleMulNRoots e = some e' ↔
    ∃ f as as', e = .mul f as ∧
      consolidate asNRoot (fun a b => a == b) (fun n inners => mkNRoot (mkMul inners) n) as =
        some as' ∧
      e' = mkMul as' := by
  constructor
  · intro h
    unfold ruleMulNRoots at h
    split at h
    · obtain ⟨as', hs, rfl⟩ := Option.map_eq_some_iff.mp h
      exact ⟨_, _, as', rfl, hs, rfl⟩
    · cases h
  · rintro ⟨f, as, as', rfl, hs, rfl⟩
    simp [ruleMulNRoots, hs]

theorem ruleMulExps_eq_some : ruleMulExps N e = some e' ↔
    ∃ f as as', e = .mul f as ∧
      consolidate asExp N.eq (fun b inners => mkExp (mkAdd inners) b) as = some as' ∧
      e' = mkMul as' := by
  constructor
  · intro h
    unfold ruleMulExps at h
    split at h
    · obtain ⟨as', hs, rfl⟩ := Option.map_eq_some_iff.mp h
      exact ⟨_, _, as', rfl, hs, rfl⟩
    · cases h
  · rintro ⟨f, as, as', rfl, hs, rfl⟩
    simp [ruleMulExps, hs]

theorem ruleMulConsts_eq_some : ruleMulConsts N e = some e' ↔
    ∃ f as, e = .mul f as ∧ 1 < (as.filterMap asConst).length ∧
      e' = mkMul (as.filter (fun a => (asConst a).isNone) ++
        [mkConst (mfMultiply N (as.filterMap asConst))]) := by
  constructor
  · intro h
    unfold ruleMulConsts at h
    split at h
    · simp only [Option.ite_none_left_eq_some, Nat.not_le, Option.some.injEq] at h
      exact ⟨_, _, rfl, h.1, h.2.symm⟩
    · cases h
  · rintro ⟨f, as, rfl, h, rfl⟩
    simp [ruleMulConsts, Nat.not_le.mpr h]

theorem ruleDivToMul_eq_some : ruleDivToMul e = some e' ↔
    ∃ f l r, e = .div f l r ∧ e' = mkMul [l, mkRecip r] := by
  constructor
  · intro h
    unfold ruleDivToMul at h
    split at h
    · exact ⟨_, _, _, rfl, (Option.some.inj h).symm⟩
    · cases h
  · rintro ⟨f, l, r, rfl, rfl⟩
    rfl

theorem ruleRecipRecip_eq_some : ruleRecipRecip e = some e' ↔
    ∃ f g, e = .recip f (.recip g e') := by
  constructor
  · intro h
    unfold ruleRecipRecip at h
    split at h
    · cases h
      exact ⟨_, _, rfl⟩
    · cases h
  · rintro ⟨f, g, rfl⟩
    rfl

theorem ruleRecipNeg_eq_some : ruleRecipNeg e = some e' ↔
    ∃ f g u, e = .recip f (.neg g u) ∧ e' = mkNeg (mkRecip u) := by
  constructor
  · intro h
    unfold ruleRecipNeg at h
    split at h
    · exact ⟨_, _, _, rfl, (Option.some.inj h).symm⟩
    · cases h
  · rintro ⟨f, g, u, rfl, rfl⟩
    rfl

theorem ruleRecipProd_eq_some : ruleRecipProd e = some e' ↔
    ∃ f g as, e = .recip f (.mul g as) ∧ e' = mkMul (as.map mkRecip) := by
  constructor
  · intro h
    unfold ruleRecipProd at h
    split at h
    · exact ⟨_, _, _, rfl, (Option.some.inj h).symm⟩
    · cases h
  · rintro ⟨f, g, as, rfl, rfl⟩
    rfl

theorem rulePowOne_eq_some : rulePowOne N e = some e' ↔
    ∃ f r, e = .pow f e' r ∧ isConstSuch (fun v => N.eq v N.one) r = true := by
  constructor
  · intro h
    unfold rulePowOne at h
    split at h
    · simp only [Option.ite_none_right_eq_some, Option.some.injEq] at h
      obtain ⟨hr, rfl⟩ := h
      exact ⟨_, _, rfl, hr⟩
    · cases h
  · rintro ⟨f, r, rfl, hr⟩
    simp [rulePowOne, hr]

theorem rulePowZero_eq_some : rulePowZero N e = some e' ↔
    ∃ f l r, e = .pow f l r ∧ isConstSuch N.isZero r = true ∧ e' = mkConst N.one := by
  constructor
  · intro h
    unfold rulePowZero at h
    split at h
    · simp only [Option.ite_none_right_eq_some, Option.some.injEq] at h
      obtain ⟨hr, rfl⟩ := h
      exact ⟨_, _, _, rfl, hr, rfl⟩
    · cases h
  · rintro ⟨f, l, r, rfl, hr, rfl⟩
    simp [rulePowZero, hr]

theorem ruleOnePow_eq_some : ruleOnePow N e = some e' ↔
    ∃ f l r, e = .pow f l r ∧ isConstSuch (fun v => N.eq v N.one) l = true ∧
      e' = mkConst N.one := by
  constructor
  · intro h
    unfold ruleOnePow at h
    split at h
    · simp only [Option.ite_none_right_eq_some, Option.some.injEq] at h
      obtain ⟨hl, rfl⟩ := h
      exact ⟨_, _, _, rfl, hl, rfl⟩
    · cases h
  · rintro ⟨f, l, r, rfl, hl, rfl⟩
    simp [ruleOnePow, hl]

theorem rulePowNat_eq_some : rulePowNat N e = some e' ↔
    ∃ f l g v k, e = .pow f l (.const g v) ∧ N.toInt v = some k ∧ 2 ≤ k ∧
      e' = mkNPow l k.toNat := by
  constructor
  · intro h
    unfold rulePowNat at h
    split at h
    · split at h
      · next k hk =>
        simp only [Option.ite_none_right_eq_some, Option.some.injEq] at h
        obtain ⟨h2, rfl⟩ := h
        exact ⟨_, _, _, _, k, rfl, hk, h2, rfl⟩
      · cases h
    · cases h
  · rintro ⟨f, l, g, v, k, rfl, hk, h2, rfl⟩
    simp [rulePowNat, hk, h2]

theorem rulePowNegOne_eq_some : rulePowNegOne N e = some e' ↔
    ∃ f l r, e = .pow f l r ∧ isConstSuch (fun v => N.eq v N.negOne) r = true ∧
      e' = mkRecip l := by
  constructor
  · intro h
    unfold rulePowNegOne at h
    split at h
    · simp only [Option.ite_none_right_eq_some, Option.some.injEq] at h
      obtain ⟨hr, rfl⟩ := h
      exact ⟨_, _, _, rfl, hr, rfl⟩
    · cases h
  · rintro ⟨f, l, r, rfl, hr, rfl⟩
    simp [rulePowNegOne, hr]

theorem rulePowConstBase_eq_some : rulePowConstBase N e = some e' ↔
    ∃ f g v r, e = .pow f (.const g v) r ∧ N.isPos v = true ∧ N.eq v N.one = false ∧
      e' = mkExp r v := by
  constructor
  · intro h
    unfold rulePowConstBase at h
    split at h
    · simp only [Option.ite_none_right_eq_some, Option.some.injEq] at h
      obtain ⟨hv, rfl⟩ := h
      rw [Bool.and_eq_true, Bool.not_eq_true'] at hv
      exact ⟨_, _, _, _, rfl, hv.1, hv.2, rfl⟩
    · cases h
  · rintro ⟨f, g, v, r, rfl, hp, h1, rfl⟩
    simp [rulePowConstBase, hp, h1]

theorem rulePowPow_eq_some : rulePowPow e = some e' ↔
    ∃ f g u v w, e = .pow f (.pow g u v) w ∧ e' = mkPow u (mkMul [v, w]) := by
  constructor
  · intro h
    unfold rulePowPow at h
    split at h
    · exact ⟨_, _, _, _, _, rfl, (Option.some.inj h).symm⟩
    · cases h
  · rintro ⟨f, g, u, v, w, rfl, rfl⟩
    rfl

theorem rulePowNegExp_eq_some : rulePowNegExp e = some e' ↔
    ∃ f l g v, e = .pow f l (.neg g v) ∧ e' = mkRecip (mkPow l v) := by
  constructor
  · intro h
    unfold rulePowNegExp at h
    split at h
    · exact ⟨_, _, _, _, rfl, (Option.some.inj h).symm⟩
    · cases h
  · rintro ⟨f, l, g, v, rfl, rfl⟩
    rfl

theorem rulePowRecipBase_eq_some : rulePowRecipBase e = some e' ↔
    ∃ f g u r, e = .pow f (.recip g u) r ∧ e' = mkRecip (mkPow u r) := by
  constructor
  · intro h
    unfold rulePowRecipBase at h
    split at h
    · exact ⟨_, _, _, _, rfl, (Option.some.inj h).symm⟩
    · cases h
  · rintro ⟨f, g, u, r, rfl, rfl⟩
    rfl

theorem ruleNPowOne_eq_some : ruleNPowOne e = some e' ↔ ∃ f, e = .npow f e' 1 := by
  constructor
  · intro h
    unfold ruleNPowOne at h
    split at h
    · simp only [Option.ite_none_right_eq_some, Option.some.injEq] at h
      obtain ⟨rfl, rfl⟩ := h
      exact ⟨_, rfl⟩
    · cases h
  · rintro ⟨f, rfl⟩
    rfl

theorem ruleNPowRoot_eq_some : ruleNPowRoot e = some e' ↔
    ∃ f g u m n, e = .npow f (.nroot g u m) n ∧
      (m = n ∧ e' = u ∨
        m ≠ n ∧ Nat.gcd m n ≠ 1 ∧ e' = mkNPow (mkNRoot u (m / Nat.gcd m n)) (n / Nat.gcd m n)) := by
  constructor
  · intro h
    unfold ruleNPowRoot at h
    split at h
    · refine ⟨_, _, _, _, _, rfl, ?_⟩
      split at h
      · next hmn => exact .inl ⟨hmn, (Option.some.inj h).symm⟩
      · next hmn =>
        simp only [Option.ite_none_right_eq_some, Option.some.injEq] at h
        obtain ⟨hg, rfl⟩ := h
        exact .inr ⟨hmn, hg, rfl⟩
    · cases h
  · rintro ⟨f, g, u, m, n, rfl, ⟨hmn, rfl⟩ | ⟨hmn, hg, rfl⟩⟩
    · simp [ruleNPowRoot, hmn]
    · simp [ruleNPowRoot, hmn, hg]

theorem ruleNPowPow_eq_some : ruleNPowPow e = some e' ↔
    ∃ f g u m n, e = .npow f (.npow g u m) n ∧ e' = mkNPow u (n * m) := by
  constructor
  · intro h
    unfold ruleNPowPow at h
    split at h
    · exact ⟨_, _, _, _, _, rfl, (Option.some.inj h).symm⟩
    · cases h
  · rintro ⟨f, g, u, m, n, rfl, rfl⟩
    rfl

theorem ruleNPowNeg_eq_some : ruleNPowNeg e = some e' ↔
    ∃ f g u n, e = .npow f (.neg g u) n ∧
      e' = if n % 2 = 0 then mkNPow u n else mkNeg (mkNPow u n) := by
  constructor
  · intro h
    unfold ruleNPowNeg at h
    split at h
    · rw [← apply_ite some] at h
      exact ⟨_, _, _, _, rfl, (Option.some.inj h).symm⟩
    · cases h
  · rintro ⟨f, g, u, n, rfl, rfl⟩
    simp only [ruleNPowNeg]
    split <;> rfl

theorem ruleNPowRecip_eq_some : ruleNPowRecip e = some e' ↔
    ∃ f g u n, e = .npow f (.recip g u) n ∧ e' = mkRecip (mkNPow u n) := by
  constructor
  · intro h
    unfold ruleNPowRecip at h
    split at h
    · exact ⟨_, _, _, _, rfl, (Option.some.inj h).symm⟩
    · cases h
  · rintro ⟨f, g, u, n, rfl, rfl⟩
    rfl

theorem ruleNPowExp_eq_some : ruleNPowExp N e = some e' ↔
    ∃ f g u b n, e = .npow f (.exp g u b) n ∧ e' = mkExp (mkMul [mkConst (N.ofNat n), u]) b := by
  constructor
  · intro h
    unfold ruleNPowExp at h
    split at h
    · exact ⟨_, _, _, _, _, rfl, (Option.some.inj h).symm⟩
    · cases h
  · rintro ⟨f, g, u, b, n, rfl, rfl⟩
    rfl

theorem ruleNRootOne_eq_some : ruleNRootOne e = some e' ↔ ∃ f, e = .nroot f e' 1 := by
  constructor
  · intro h
    unfold ruleNRootOne at h
    split at h
    · simp only [Option.ite_none_right_eq_some, Option.some.injEq] at h
      obtain ⟨rfl, rfl⟩ := h
      exact ⟨_, rfl⟩
    · cases h
  · rintro ⟨f, rfl⟩
    rfl

theorem ruleNRootPow_eq_some : ruleNRootPow e = some e' ↔
    ∃ f g u m n, e = .nroot f (.npow g u m) n ∧ e' = mkNPow (mkNRoot u n) m := by
  constructor
  · intro h
    unfold ruleNRootPow at h
    split at h
    · exact ⟨_, _, _, _, _, rfl, (Option.some.inj h).symm⟩
    · cases h
  · rintro ⟨f, g, u, m, n, rfl, rfl⟩
    rfl

theorem ruleNRootRoot_eq_some : ruleNRootRoot e = some e' ↔
    ∃ f g u m n, e = .nroot f (.nroot g u m) n ∧ e' = mkNRoot u (n * m) := by
  constructor
  · intro h
    unfold ruleNRootRoot at h
    split at h
    · exact ⟨_, _, _, _, _, rfl, (Option.some.inj h).symm⟩
    · cases h
  · rintro ⟨f, g, u, m, n, rfl, rfl⟩
    rfl

theorem ruleNRootNeg_eq_some : ruleNRootNeg e = some e' ↔
    ∃ f g u n, e = .nroot f (.neg g u) n ∧ n % 2 = 1 ∧ e' = mkNeg (mkNRoot u n) := by
  constructor
  · intro h
    unfold ruleNRootNeg at h
    split at h
    · simp only [Option.ite_none_right_eq_some, Option.some.injEq] at h
      obtain ⟨hn, rfl⟩ := h
      exact ⟨_, _, _, _, rfl, hn, rfl⟩
    · cases h
  · rintro ⟨f, g, u, n, rfl, hn, rfl⟩
    simp [ruleNRootNeg, hn]

theorem ruleNRootRecip_eq_some : ruleNRootRecip e = some e' ↔
    ∃ f g u n, e = .nroot f (.recip g u) n ∧ e' = mkRecip (mkNRoot u n) := by
  constructor
  · intro h
    unfold ruleNRootRecip at h
    split at h
    · exact ⟨_, _, _, _, rfl, (Option.some.inj h).symm⟩
    · cases h
  · rintro ⟨f, g, u, n, rfl, rfl⟩
    rfl

theorem ruleExpLog_eq_some : ruleExpLog N e = some e' ↔
    ∃ f g b b', e = .exp f (.log g e' b') b ∧ N.eq b b' = true := by
  constructor
  · intro h
    unfold ruleExpLog at h
    split at h
    · simp only [Option.ite_none_right_eq_some, Option.some.injEq] at h
      obtain ⟨hb, rfl⟩ := h
      exact ⟨_, _, _, _, rfl, hb⟩
    · cases h
  · rintro ⟨f, g, b, b', rfl, hb⟩
    simp [ruleExpLog, hb]

theorem ruleExpNeg_eq_some : ruleExpNeg e = some e' ↔
    ∃ f g u b, e = .exp f (.neg g u) b ∧ e' = mkRecip (mkExp u b) := by
  constructor
  · intro h
    unfold ruleExpNeg at h
    split at h
    · exact ⟨_, _, _, _, rfl, (Option.some.inj h).symm⟩
    · cases h
  · rintro ⟨f, g, u, b, rfl, rfl⟩
    rfl

theorem ruleLogExp_eq_some : ruleLogExp N e = some e' ↔
    ∃ f g b b', e = .log f (.exp g e' b') b ∧ N.eq b b' = true := by
  constructor
  · intro h
    unfold ruleLogExp at h
    split at h
    · simp only [Option.ite_none_right_eq_some, Option.some.injEq] at h
      obtain ⟨hb, rfl⟩ := h
      exact ⟨_, _, _, _, rfl, hb⟩
    · cases h
  · rintro ⟨f, g, b, b', rfl, hb⟩
    simp [ruleLogExp, hb]

theorem ruleLogRecip_eq_some : ruleLogRecip e = some e' ↔
    ∃ f g u b, e = .log f (.recip g u) b ∧ e' = mkNeg (mkLog u b) := by
  constructor
  · intro h
    unfold ruleLogRecip at h
    split at h
    · exact ⟨_, _, _, _, rfl, (Option.some.inj h).symm⟩
    · cases h
  · rintro ⟨f, g, u, b, rfl, rfl⟩
    rfl

theorem ruleLogNPow_eq_some : ruleLogNPow N e = some e' ↔
    ∃ f g u n b, e = .log f (.npow g u n) b ∧ n % 2 = 1 ∧
      e' = mkMul [mkConst (N.ofNat n), mkLog u b] := by
  constructor
  · intro h
    unfold ruleLogNPow at h
    split at h
    · simp only [Option.ite_none_right_eq_some, Option.some.injEq] at h
      obtain ⟨hn, rfl⟩ := h
      exact ⟨_, _, _, _, _, rfl, hn, rfl⟩
    · cases h
  · rintro ⟨f, g, u, n, b, rfl, hn, rfl⟩
    simp [ruleLogNPow, hn]

theorem ruleCosNeg_eq_some : ruleCosNeg e = some e' ↔
    ∃ f g u, e = .cos f (.neg g u) ∧ e' = mkCos u := by
  constructor
  · intro h
    unfold ruleCosNeg at h
    split at h
    · exact ⟨_, _, _, rfl, (Option.some.inj h).symm⟩
    · cases h
  · rintro ⟨f, g, u, rfl, rfl⟩
    rfl

theorem ruleSinNeg_eq_some : ruleSinNeg e = some e' ↔
    ∃ f g u, e = .sin f (.neg g u) ∧ e' = mkNeg (mkSin u) := by
  constructor
  · intro h
    unfold ruleSinNeg at h
    split at h
    · exact ⟨_, _, _, rfl, (Option.some.inj h).symm⟩
    · cases h
  · rintro ⟨f, g, u, rfl, rfl⟩
    rfl

end rules

/-! ### properties of every node

A property `P` that a node hands down to its operands (`Hered`) and that the nodes the rules build
have once their operands have it (`Builds`) survives every rule. -/

structure Hered (P : Expr α → Prop) : Prop where
  add {f : Flags} {as : List (Expr α)} : P (.add f as) → ∀ a ∈ as, P a
  mul {f : Flags} {as : List (Expr α)} : P (.mul f as) → ∀ a ∈ as, P a
  minus {f : Flags} {l r : Expr α} : P (.minus f l r) → P l ∧ P r
  div {f : Flags} {l r : Expr α} : P (.div f l r) → P l ∧ P r
  pow {f : Flags} {l r : Expr α} : P (.pow f l r) → P l ∧ P r
  neg {f : Flags} {u : Expr α} : P (.neg f u) → P u
  recip {f : Flags} {u : Expr α} : P (.recip f u) → P u
  npow {f : Flags} {u : Expr α} {n : Nat} : P (.npow f u n) → P u
  nroot {f : Flags} {u : Expr α} {n : Nat} : P (.nroot f u n) → P u
  exp {f : Flags} {u : Expr α} {b : α} : P (.exp f u b) → P u
  log {f : Flags} {u : Expr α} {b : α} : P (.log f u b) → P u
  cos {f : Flags} {u : Expr α} : P (.cos f u) → P u
  sin {f : Flags} {u : Expr α} : P (.sin f u) → P u

/-- `Hered` is closure under `children`, spelt out class by class -/
theorem Hered.of_child {P : Expr α → Prop} (h : ∀ {e c : Expr α}, P e → c ∈ children e → P c) :
    Hered P where
  add hP _ ha := h hP ha
  mul hP _ ha := h hP ha
  minus hP := ⟨h hP List.mem_cons_self, h hP (List.mem_cons_of_mem _ List.mem_cons_self)⟩
  div hP := ⟨h hP List.mem_cons_self, h hP (List.mem_cons_of_mem _ List.mem_cons_self)⟩
  pow hP := ⟨h hP List.mem_cons_self, h hP (List.mem_cons_of_mem _ List.mem_cons_self)⟩
  neg hP := h hP List.mem_cons_self
  recip hP := h hP List.mem_cons_self
  npow hP := h hP List.mem_cons_self
  nroot hP := h hP List.mem_cons_self
  exp hP := h hP List.mem_cons_self
  log hP := h hP List.mem_cons_self
  cos hP := h hP List.mem_cons_self
  sin hP := h hP List.mem_cons_self

/-- A new `NthPower`, `NthRoot`, `Exponential` or `Logarithm` takes its degree or base from a node
of its own class that has `P` (the first hypothesis of `npow` … `log`), except in the five rules
that compute it; for those the field speaks of the rule's input and output. -/
structure Builds (N : Num α) (P : Expr α → Prop) : Prop where
  const (c : α) : P (mkConst c)
  add {as : List (Expr α)} : (∀ a ∈ as, P a) → P (mkAdd as)
  mul {as : List (Expr α)} : (∀ a ∈ as, P a) → P (mkMul as)
  neg {u : Expr α} : P u → P (mkNeg u)
  recip {u : Expr α} : P u → P (mkRecip u)
  pow {l r : Expr α} : P l → P r → P (mkPow l r)
  cos {u : Expr α} : P u → P (mkCos u)
  sin {u : Expr α} : P u → P (mkSin u)
  npow {f : Flags} {v u : Expr α} {n : Nat} : P (.npow f v n) → P u → P (mkNPow u n)
  nroot {f : Flags} {v u : Expr α} {n : Nat} : P (.nroot f v n) → P u → P (mkNRoot u n)
  exp {f : Flags} {v u : Expr α} {b : α} : P (.exp f v b) → P u → P (mkExp u b)
  log {f : Flags} {v u : Expr α} {b : α} : P (.log f v b) → P u → P (mkLog u b)
  powNat {f g : Flags} {l : Expr α} {c : α} {k : Int} :
    P (.pow f l (.const g c)) → N.toInt c = some k → 2 ≤ k → P (mkNPow l k.toNat)
  powConstBase {f g : Flags} {c : α} {r : Expr α} :
    P (.pow f (.const g c) r) → N.isPos c = true → N.eq c N.one = false → P (mkExp r c)
  npowRoot {f g : Flags} {u : Expr α} {m n : Nat} :
    P (.npow f (.nroot g u m) n) → m ≠ n → Nat.gcd m n ≠ 1 →
      P (mkNPow (mkNRoot u (m / Nat.gcd m n)) (n / Nat.gcd m n))
  npowPow {f g : Flags} {u : Expr α} {m n : Nat} :
    P (.npow f (.npow g u m) n) → P (mkNPow u (n * m))
  nrootRoot {f g : Flags} {u : Expr α} {m n : Nat} :
    P (.nroot f (.nroot g u m) n) → P (mkNRoot u (n * m))

theorem forall_mem_pair {P : Expr α → Prop} {x y : Expr α} (hx : P x) (hy : P y) :
    ∀ a ∈ [x, y], P a := by
  simp [hx, hy]

theorem rule_closed {N : Num α} {P : Expr α → Prop} (H : Hered P) (B : Builds N P) {r : RuleId}
    {e e' : Expr α} (h : r.apply N e = some e') (hP : P e) : P e' := by
  cases r with
  | addFlatten =>
    obtain ⟨f, as, as', rfl, hs, rfl⟩ := ruleAddFlatten_eq_some.mp h
    refine B.add (spliceFirst_forall (fun x inner hx hPx => ?_) hs (H.add hP))
    obtain ⟨g, rfl⟩ := asAdd_some_iff.mp hx
    exact H.add hPx
  | addZeros =>
    obtain ⟨f, as, rfl, -, rfl⟩ := ruleAddZeros_eq_some.mp h
    exact B.add fun a ha => H.add hP a (List.mem_filter.mp ha).1
  | addLogs =>
    obtain ⟨f, as, as', rfl, hs, rfl⟩ := ruleAddLogs_eq_some.mp h
    refine B.add (consolidate_forall (fun x k u hx hPx => ?_) (fun k us hk hus => ?_) hs (H.add hP))
    · obtain ⟨g, rfl⟩ := asLog_some_iff.mp hx
      exact H.log hPx
    · obtain ⟨x, hx, u, hu⟩ := hk
      obtain ⟨g, rfl⟩ := asLog_some_iff.mp hu
      exact B.log (H.add hP _ hx) (B.mul hus)
  | addConsts =>
    obtain ⟨f, as, rfl, -, rfl⟩ := ruleAddConsts_eq_some.mp h
    refine B.add (List.forall_mem_append.mpr ⟨fun a ha => H.add hP a (List.mem_filter.mp ha).1, ?_⟩)
    exact List.forall_mem_singleton.mpr (B.const _)
  | minusToSum =>
    obtain ⟨f, l, r, rfl, rfl⟩ := ruleMinusToSum_eq_some.mp h
    exact B.add (forall_mem_pair (H.minus hP).1 (B.neg (H.minus hP).2))
  | negNeg =>
    obtain ⟨f, g, rfl⟩ := ruleNegNeg_eq_some.mp h
    exact H.neg (H.neg hP)
  | negSum =>
    obtain ⟨f, g, as, rfl, rfl⟩ := ruleNegSum_eq_some.mp h
    exact B.add (List.forall_mem_map.mpr fun a ha => B.neg (H.add (H.neg hP) a ha))
  | mulFlatten =>
    obtain ⟨f, as, as', rfl, hs, rfl⟩ := ruleMulFlatten_eq_some.mp h
    refine B.mul (spliceFirst_forall (fun x inner hx hPx => ?_) hs (H.mul hP))
    obtain ⟨g, rfl⟩ := asMul_some_iff.mp hx
    exact H.mul hPx
  | mulZero =>
    obtain ⟨f, as, rfl, -, rfl⟩ := ruleMulZero_eq_some.mp h
    exact B.const _
  | mulOnes =>
    obtain ⟨f, as, rfl, -, rfl⟩ := ruleMulOnes_eq_some.mp h
    exact B.mul fun a ha => H.mul hP a (List.mem_filter.mp ha).1
  | mulNegs =>
    obtain ⟨f, as, rfl, -, rfl⟩ := ruleMulNegs_eq_some.mp h
    have hbase : ∀ a ∈ as.filter (fun a => (asNeg a).isNone) ++ as.filterMap asNeg, P a := by
      refine List.forall_mem_append.mpr ⟨fun a ha => H.mul hP a (List.mem_filter.mp ha).1, ?_⟩
      intro u hu
      obtain ⟨x, hx, hxu⟩ := List.mem_filterMap.mp hu
      obtain ⟨g, rfl⟩ := asNeg_some_iff.mp hxu
      exact H.neg (H.mul hP _ hx)
    split
    · exact B.mul hbase
    · exact B.mul (List.forall_mem_append.mpr ⟨hbase, List.forall_mem_singleton.mpr (B.const _)⟩)
  | mulNPows =>
    obtain ⟨f, as, as', rfl, hs, rfl⟩ := ruleMulNPows_eq_some.mp h
    refine B.mul (consolidate_forall (fun x k u hx hPx => ?_) (fun k us hk hus => ?_) hs (H.mul hP))
    · obtain ⟨g, rfl⟩ := asNPow_some_iff.mp hx
      exact H.npow hPx
    · obtain ⟨x, hx, u, hu⟩ := hk
      obtain ⟨g, rfl⟩ := asNPow_some_iff.mp hu
      exact B.npow (H.mul hP _ hx) (B.mul hus)
  | mulNRoots =>
    obtain ⟨f, as, as', rfl, hs, rfl⟩ := ruleMulNRoots_eq_some.mp h
    refine B.mul (consolidate_forall (fun x k u hx hPx => ?_) (fun k us hk hus => ?_) hs (H.mul hP))
    · obtain ⟨g, rfl⟩ := asNRoot_some_iff.mp hx
      exact H.nroot hPx
    · obtain ⟨x, hx, u, hu⟩ := hk
      obtain ⟨g, rfl⟩ := asNRoot_some_iff.mp hu
      exact B.nroot (H.mul hP _ hx) (B.mul hus)
  | mulExps =>
    obtain ⟨f, as, as', rfl, hs, rfl⟩ := ruleMulExps_eq_some.mp h
    refine B.mul (consolidate_forall (fun x k u hx hPx => ?_) (fun k us hk hus => ?_) hs (H.mul hP))
    · obtain ⟨g, rfl⟩ := asExp_some_iff.mp hx
      exact H.exp hPx
    · obtain ⟨x, hx, u, hu⟩ := hk
      obtain ⟨g, rfl⟩ := asExp_some_iff.mp hu
      exact B.exp (H.mul hP _ hx) (B.add hus)
  | mulConsts =>
    obtain ⟨f, as, rfl, -, rfl⟩ := ruleMulConsts_eq_some.mp h
    refine B.mul (List.forall_mem_append.mpr ⟨fun a ha => H.mul hP a (List.mem_filter.mp ha).1, ?_⟩)
    exact List.forall_mem_singleton.mpr (B.const _)
  | divToMul =>
    obtain ⟨f, l, r, rfl, rfl⟩ := ruleDivToMul_eq_some.mp h
    exact B.mul (forall_mem_pair (H.div hP).1 (B.recip (H.div hP).2))
  | recipRecip =>
    obtain ⟨f, g, rfl⟩ := ruleRecipRecip_eq_some.mp h
    exact H.recip (H.recip hP)
  | recipNeg =>
    obtain ⟨f, g, u, rfl, rfl⟩ := ruleRecipNeg_eq_some.mp h
    exact B.neg (B.recip (H.neg (H.recip hP)))
  | recipProd =>
    obtain ⟨f, g, as, rfl, rfl⟩ := ruleRecipProd_eq_some.mp h
    exact B.mul (List.forall_mem_map.mpr fun a ha => B.recip (H.mul (H.recip hP) a ha))
  | powOne =>
    obtain ⟨f, r, rfl, -⟩ := rulePowOne_eq_some.mp h
    exact (H.pow hP).1
  | powZero =>
    obtain ⟨f, l, r, rfl, -, rfl⟩ := rulePowZero_eq_some.mp h
    exact B.const _
  | onePow =>
    obtain ⟨f, l, r, rfl, -, rfl⟩ := ruleOnePow_eq_some.mp h
    exact B.const _
  | powNat =>
    obtain ⟨f, l, g, c, k, rfl, hk, h2, rfl⟩ := rulePowNat_eq_some.mp h
    exact B.powNat hP hk h2
  | powNegOne =>
    obtain ⟨f, l, r, rfl, -, rfl⟩ := rulePowNegOne_eq_some.mp h
    exact B.recip (H.pow hP).1
  | powConstBase =>
    obtain ⟨f, g, c, r, rfl, hp, h1, rfl⟩ := rulePowConstBase_eq_some.mp h
    exact B.powConstBase hP hp h1
  | powPow =>
    obtain ⟨f, g, u, v, w, rfl, rfl⟩ := rulePowPow_eq_some.mp h
    have hu := H.pow (H.pow hP).1
    exact B.pow hu.1 (B.mul (forall_mem_pair hu.2 (H.pow hP).2))
  | powNegExp =>
    obtain ⟨f, l, g, v, rfl, rfl⟩ := rulePowNegExp_eq_some.mp h
    exact B.recip (B.pow (H.pow hP).1 (H.neg (H.pow hP).2))
  | powRecipBase =>
    obtain ⟨f, g, u, r, rfl, rfl⟩ := rulePowRecipBase_eq_some.mp h
    exact B.recip (B.pow (H.recip (H.pow hP).1) (H.pow hP).2)
  | npowOne =>
    obtain ⟨f, rfl⟩ := ruleNPowOne_eq_some.mp h
    exact H.npow hP
  | npowRoot =>
    obtain ⟨f, g, u, m, n, rfl, ⟨-, rfl⟩ | ⟨hmn, hg, rfl⟩⟩ := ruleNPowRoot_eq_some.mp h
    · exact H.nroot (H.npow hP)
    · exact B.npowRoot hP hmn hg
  | npowPow =>
    obtain ⟨f, g, u, m, n, rfl, rfl⟩ := ruleNPowPow_eq_some.mp h
    exact B.npowPow hP
  | npowNeg =>
    obtain ⟨f, g, u, n, rfl, rfl⟩ := ruleNPowNeg_eq_some.mp h
    have hu := B.npow hP (H.neg (H.npow hP))
    split
    · exact hu
    · exact B.neg hu
  | npowRecip =>
    obtain ⟨f, g, u, n, rfl, rfl⟩ := ruleNPowRecip_eq_some.mp h
    exact B.recip (B.npow hP (H.recip (H.npow hP)))
  | npowExp =>
    obtain ⟨f, g, u, b, n, rfl, rfl⟩ := ruleNPowExp_eq_some.mp h
    have hu := H.npow hP
    exact B.exp hu (B.mul (forall_mem_pair (B.const _) (H.exp hu)))
  | nrootOne =>
    obtain ⟨f, rfl⟩ := ruleNRootOne_eq_some.mp h
    exact H.nroot hP
  | nrootPow =>
    obtain ⟨f, g, u, m, n, rfl, rfl⟩ := ruleNRootPow_eq_some.mp h
    have hu := H.nroot hP
    exact B.npow hu (B.nroot hP (H.npow hu))
  | nrootRoot =>
    obtain ⟨f, g, u, m, n, rfl, rfl⟩ := ruleNRootRoot_eq_some.mp h
    exact B.nrootRoot hP
  | nrootNeg =>
    obtain ⟨f, g, u, n, rfl, -, rfl⟩ := ruleNRootNeg_eq_some.mp h
    exact B.neg (B.nroot hP (H.neg (H.nroot hP)))
  | nrootRecip =>
    obtain ⟨f, g, u, n, rfl, rfl⟩ := ruleNRootRecip_eq_some.mp h
    exact B.recip (B.nroot hP (H.recip (H.nroot hP)))
  | expLog =>
    obtain ⟨f, g, b, b', rfl, -⟩ := ruleExpLog_eq_some.mp h
    exact H.log (H.exp hP)
  | expNeg =>
    obtain ⟨f, g, u, b, rfl, rfl⟩ := ruleExpNeg_eq_some.mp h
    exact B.recip (B.exp hP (H.neg (H.exp hP)))
  | logExp =>
    obtain ⟨f, g, b, b', rfl, -⟩ := ruleLogExp_eq_some.mp h
    exact H.exp (H.log hP)
  | logRecip =>
    obtain ⟨f, g, u, b, rfl, rfl⟩ := ruleLogRecip_eq_some.mp h
    exact B.neg (B.log hP (H.recip (H.log hP)))
  | logNPow =>
    obtain ⟨f, g, u, n, b, rfl, -, rfl⟩ := ruleLogNPow_eq_some.mp h
    exact B.mul (forall_mem_pair (B.const _) (B.log hP (H.npow (H.log hP))))
  | cosNeg =>
    obtain ⟨f, g, u, rfl, rfl⟩ := ruleCosNeg_eq_some.mp h
    exact B.cos (H.neg (H.cos hP))
  | sinNeg =>
    obtain ⟨f, g, u, rfl, rfl⟩ := ruleSinNeg_eq_some.mp h
    exact B.neg (B.sin (H.neg (H.sin hP)))

/-! ### predicates at every node that hold of a node without flags

The nodes a rule or a step builds carry no flag, so for a predicate `Everywhere At` whose `At` holds
of every unflagged node (`Settled`, `FlagsSound`) the rules and the rebuilding of a node around a
stepped operand are dealt with once. -/

section Unflagged
variable {N : Num α} {At : Expr α → Prop}

theorem Everywhere.hered : Hered (Everywhere At) := .of_child Everywhere.child

variable (hnew : ∀ x : Expr α, x.flags = {} → At x)
include hnew

theorem everywhere_new {x : Expr α} (hx : x.flags = {}) :
    Everywhere At x ↔ ∀ c ∈ children x, Everywhere At c := by
  rw [everywhere_iff, and_iff_right (hnew x hx)]

theorem everywhere_builds : Builds N (Everywhere At) where
  const _ := (everywhere_new hnew rfl).mpr nofun
  add h := (everywhere_new hnew rfl).mpr h
  mul h := (everywhere_new hnew rfl).mpr h
  neg h := (everywhere_new hnew rfl).mpr (List.forall_mem_singleton.mpr h)
  recip h := (everywhere_new hnew rfl).mpr (List.forall_mem_singleton.mpr h)
  pow hl hr := (everywhere_new hnew rfl).mpr (forall_mem_pair hl hr)
  cos h := (everywhere_new hnew rfl).mpr (List.forall_mem_singleton.mpr h)
  sin h := (everywhere_new hnew rfl).mpr (List.forall_mem_singleton.mpr h)
  npow _ h := (everywhere_new hnew rfl).mpr (List.forall_mem_singleton.mpr h)
  nroot _ h := (everywhere_new hnew rfl).mpr (List.forall_mem_singleton.mpr h)
  exp _ h := (everywhere_new hnew rfl).mpr (List.forall_mem_singleton.mpr h)
  log _ h := (everywhere_new hnew rfl).mpr (List.forall_mem_singleton.mpr h)
  powNat h _ _ := (everywhere_new hnew rfl).mpr
    (List.forall_mem_singleton.mpr (Everywhere.hered.pow h).1)
  powConstBase h _ _ := (everywhere_new hnew rfl).mpr
    (List.forall_mem_singleton.mpr (Everywhere.hered.pow h).2)
  npowRoot h _ _ := (everywhere_new hnew rfl).mpr (List.forall_mem_singleton.mpr
    ((everywhere_new hnew rfl).mpr
      (List.forall_mem_singleton.mpr (Everywhere.hered.nroot (Everywhere.hered.npow h)))))
  npowPow h := (everywhere_new hnew rfl).mpr
    (List.forall_mem_singleton.mpr (Everywhere.hered.npow (Everywhere.hered.npow h)))
  nrootRoot h := (everywhere_new hnew rfl).mpr
    (List.forall_mem_singleton.mpr (Everywhere.hered.nroot (Everywhere.hered.nroot h)))

theorem rule_everywhere {r : RuleId} {e e' : Expr α} (h : r.apply N e = some e')
    (he : Everywhere At e) : Everywhere At e' :=
  rule_closed Everywhere.hered (everywhere_builds hnew) h he

theorem everywhere_rebuild_one {e c c' : Expr α} {pre post : List (Expr α)}
    (he : Everywhere At e) (hch : children e = pre ++ c :: post) (hc' : Everywhere At c') :
    Everywhere At (rebuildNode e (pre ++ c' :: post)) := by
  have hkids : ∀ a ∈ pre ++ c :: post, Everywhere At a := hch ▸ fun a ha => he.child ha
  rw [everywhere_new hnew (flags_rebuildNode _ _), children_rebuildNode _ _ (by simp [hch])]
  simp only [List.forall_mem_append, List.forall_mem_cons] at hkids ⊢
  exact ⟨hkids.1, hc', hkids.2.2⟩

end Unflagged

end Smooth
