/-
Proofs/ObjEqns — what the constructors and methods of `Partial`, `Derivative` and `Differential`
(Model/Objects) compute, for every number instance: when a construction succeeds and what the object
then stores, and that constructing an object or asking it for its expression can only fail for lack
of fuel.  Mathlib-free.
-/
import Smooth.Model.Objects
import Smooth.Proofs.Base

namespace Smooth
variable {α β : Type} (N : Num α)

theorem liftFuel_eq_ok {o : Option β} {b : β} : liftFuel o = .ok b ↔ o = some b := by
  cases o <;> simp [liftFuel, rmonad]

theorem liftFuel_eq_error {o : Option β} {err : Err} :
    liftFuel o = .error err ↔ o = none ∧ err = .fuel := by
  cases o <;> simp [liftFuel, rmonad, eq_comm]

theorem routes_retrieve_error (e : Expr α) (x : String) (err : Err)
    (h : retrieveSyntheticPartial N e x = .error err) : err = .fuel :=
  (liftFuel_eq_error.mp h).2

theorem routes_singleVarName_ok {α : Type} {e : Expr α} {x : String} (hx : singleVarName e = .ok x) :
    e.vars.length ≤ 1 ∧ ∀ y ∈ e.vars, y = x := by
  unfold singleVarName at hx
  split at hx
  · next h => simp [h]
  · next y h => cases hx; simp [h]
  · cases hx

theorem wfd_singleVarName_error {α : Type} {e : Expr α} {err : Err}
    (h : singleVarName e = .error err) : err = .usage := by
  unfold singleVarName at h
  split at h
  · cases h
  · cases h
  · exact (Except.error.inj h).symm

theorem wfd_singleVarName_error_iff {α : Type} (e : Expr α) :
    singleVarName e = .error .usage ↔ 2 ≤ e.vars.length := by
  unfold singleVarName
  split
  · next h => simp [h, rmonad]
  · next y h => simp [h, rmonad]
  · next h1 h2 =>
    constructor
    · intro _
      match hv : e.vars, h1, h2 with
      | [], h1, _ => exact absurd rfl h1
      | [y], _, h2 => exact absurd rfl (h2 y)
      | _ :: _ :: _, _, _ => simp
    · intro _; rfl

theorem PartialObj.new_late (e : Expr α) (x : String) :
    PartialObj.new N e x false = .ok (⟨e, x, none⟩, false) := rfl

theorem PartialObj.new_early_eq_ok {e : Expr α} {x : String} {P : PartialObj α} {w : Bool} :
    PartialObj.new N e x true = .ok (P, w) ↔
      ∃ s, retrieveSyntheticPartial N e x = .ok (s, w) ∧ P = ⟨e, x, some s⟩ := by
  show retrieveSyntheticPartial N e x >>= _ = _ ↔ _
  rw [R.bind_eq_ok_iff]
  constructor
  · rintro ⟨⟨s, w'⟩, hr, h⟩
    cases h
    exact ⟨s, hr, rfl⟩
  · rintro ⟨s, hr, rfl⟩
    exact ⟨(s, w), hr, rfl⟩

theorem PartialObj.new_early_error {e : Expr α} {x : String} {err : Err}
    (h : PartialObj.new N e x true = .error err) : retrieveSyntheticPartial N e x = .error err :=
  (R.bind_eq_error_iff.mp (show retrieveSyntheticPartial N e x >>= _ = _ from h)).elim id
    fun ⟨_, _, h⟩ => nomatch h

theorem routes_partialNew_early_error (e : Expr α) (x : String) (err : Err)
    (h : PartialObj.new N e x true = .error err) : err = .fuel :=
  routes_retrieve_error N e x err (PartialObj.new_early_error N h)

theorem PartialObj.asExpression_none (e : Expr α) (x : String) :
    (PartialObj.mk e x none).asExpression N =
      (do let (s, w) ← retrieveSyntheticPartial N e x; pure (s, ⟨e, x, some s⟩, w)) := rfl

theorem PartialObj.asExpression_some (e s : Expr α) (x : String) :
    (PartialObj.mk e x (some s)).asExpression N = .ok (s, ⟨e, x, some s⟩, false) := rfl

theorem asExpression_late {N : Num α} {e s : Expr α} {x : String} {P' : PartialObj α} {w : Bool}
    (h : (PartialObj.mk e x none).asExpression N = .ok (s, P', w)) :
    retrieveSyntheticPartial N e x = .ok (s, w) ∧ P' = ⟨e, x, some s⟩ := by
  obtain ⟨⟨s', w'⟩, hr, h⟩ := R.bind_eq_ok_iff.mp h
  cases h
  exact ⟨hr, rfl⟩

theorem PartialObj.asExpression_none_error {e : Expr α} {x : String} {err : Err}
    (h : (PartialObj.mk e x none).asExpression N = .error err) :
    retrieveSyntheticPartial N e x = .error err :=
  (R.bind_eq_error_iff.mp h).elim id fun ⟨_, _, h⟩ => nomatch h

theorem DerivativeObj.new_ok {e : Expr α} {early : Bool} {D : DerivativeObj α} {w : Bool}
    (h : DerivativeObj.new N e early = .ok (D, w)) :
    ∃ x P, singleVarName e = .ok x ∧ PartialObj.new N e x early = .ok (P, w) ∧ D = ⟨e, x, P⟩ := by
  obtain ⟨x, hx, h⟩ := R.bind_eq_ok_iff.mp h
  obtain ⟨⟨P, w'⟩, hp, h⟩ := R.bind_eq_ok_iff.mp h
  cases h
  exact ⟨x, P, hx, hp, rfl⟩

theorem DerivativeObj.asExpression_eq_ok {D D' : DerivativeObj α} {s : Expr α} {w : Bool}
    (h : D.asExpression N = .ok (s, D', w)) :
    D.partial_.asExpression N = .ok (s, D'.partial_, w) := by
  obtain ⟨⟨s', P', w'⟩, hp, h⟩ := R.bind_eq_ok_iff.mp h
  cases h
  exact hp

theorem differentialNew_early (e : Expr α) {D : DifferentialObj α} {w : Bool}
    (h : DifferentialObj.new N e true = .ok (D, w)) :
    ∃ d, normalizeAll N (syntheticPartials N e) = .ok (d, w) ∧ D = ⟨e, some d⟩ := by
  obtain ⟨⟨d, w'⟩, hr, h⟩ :=
    R.bind_eq_ok_iff.mp (show normalizeAll N (syntheticPartials N e) >>= _ = _ from h)
  cases h
  exact ⟨d, hr, rfl⟩

theorem DifferentialObj.new_early_of_ok {e : Expr α} {d : SAcc α} {w : Bool}
    (h : normalizeAll N (syntheticPartials N e) = .ok (d, w)) :
    DifferentialObj.new N e true = .ok (⟨e, some d⟩, w) := by
  simp only [DifferentialObj.new, h, if_true, rmonad]

theorem DifferentialObj.new_early_error {e : Expr α} {err : Err}
    (h : DifferentialObj.new N e true = .error err) :
    normalizeAll N (syntheticPartials N e) = .error err :=
  (R.bind_eq_error_iff.mp (show normalizeAll N (syntheticPartials N e) >>= _ = _ from h)).elim id
    fun ⟨_, _, h⟩ => nomatch h

theorem DifferentialObj.component_stored (e : Expr α) (d : SAcc α) (x : String) :
    (DifferentialObj.mk e (some d)).component N x = .ok (⟨e, x, SAcc.get? d x⟩, false) := by
  simp only [DifferentialObj.component]
  cases SAcc.get? d x <;> rfl

theorem DifferentialObj.componentAt_stored (e : Expr α) (d : SAcc α) (x : String) (p : Point α) :
    (DifferentialObj.mk e (some d)).componentAt N x p =
      (PartialObj.mk e x (SAcc.get? d x)).at N p := by
  rw [DifferentialObj.componentAt, DifferentialObj.component_stored]
  rfl

theorem routes_normalizeAll_ok (acc : SAcc α) (h : ∀ a ∈ acc, ∃ r, normalize N a.2 = some r) :
    ∃ d w, normalizeAll N acc = .ok (d, w) := by
  induction acc with
  | nil => exact ⟨[], false, rfl⟩
  | cons a rest ih =>
    obtain ⟨⟨s', w₁⟩, hn⟩ := h a List.mem_cons_self
    obtain ⟨d, w, hr⟩ := ih fun b hb => h b (List.mem_cons_of_mem _ hb)
    exact ⟨(a.1, s') :: d, w₁ || w, by simp only [normalizeAll, hn, hr, liftFuel, rmonad]⟩

theorem routes_normalizeAll_error (acc : SAcc α) (err : Err) (h : normalizeAll N acc = .error err) :
    err = .fuel := by
  induction acc with
  | nil => cases h
  | cons a rest ih =>
    rw [normalizeAll] at h
    rcases R.bind_eq_error_iff.mp h with h | ⟨_, _, h⟩
    · exact (liftFuel_eq_error.mp h).2
    · rcases R.bind_eq_error_iff.mp h with h | ⟨_, _, h⟩
      · exact ih h
      · cases h

theorem routes_differentialNew_early_error (e : Expr α) (err : Err)
    (h : DifferentialObj.new N e true = .error err) : err = .fuel :=
  routes_normalizeAll_error N _ err (DifferentialObj.new_early_error N h)

/-! ### the forms in which the theorems about the symbolic routes use these facts -/

section
variable {N}

theorem symfwd_liftFuel_ok {o : Option β} {b : β} (h : liftFuel o = .ok b) : o = some b :=
  liftFuel_eq_ok.mp h

theorem partialNew_early {e : Expr α} {x : String} {P : PartialObj α} {w : Bool}
    (h : PartialObj.new N e x true = .ok (P, w)) :
    ∃ s, retrieveSyntheticPartial N e x = .ok (s, w) ∧ P = ⟨e, x, some s⟩ :=
  (PartialObj.new_early_eq_ok N).mp h

theorem derivativeAsExpression_late {D D' : DerivativeObj α} {e s : Expr α} {x : String} {w : Bool}
    (hD : D.partial_ = ⟨e, x, none⟩) (h : D.asExpression N = .ok (s, D', w)) :
    (PartialObj.mk e x none).asExpression N = .ok (s, D'.partial_, w) :=
  hD ▸ DerivativeObj.asExpression_eq_ok N h

theorem derivativeNew_late {e : Expr α} {D : DerivativeObj α} {w : Bool}
    (h : DerivativeObj.new N e false = .ok (D, w)) :
    singleVarName e = .ok D.x ∧ D.partial_ = ⟨e, D.x, none⟩ := by
  obtain ⟨x, P, hx, hp, rfl⟩ := DerivativeObj.new_ok N h
  cases hp
  exact ⟨hx, rfl⟩

end

end Smooth
