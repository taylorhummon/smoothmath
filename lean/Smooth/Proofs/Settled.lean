/-
Proofs/Settled — the flags the driver sets are honest, everywhere in the tree.

`Settled N e`: every flagged node of `e` (at any depth) has no applicable rule of its class at its
root and only flagged children.  Expressions as the constructors build them (no flag set) are settled;
every rule, constant folding, the congruence step and the flag step preserve it; so when the loop
ends on a flagged root, every node is flagged and no rule applies anywhere (property C11).

`Settled` constrains flagged nodes only, and the nodes a rule or a step builds carry no flag: the
rules and the rebuilding of a node around a stepped operand are those of Proofs/RuleInv, section
`Unflagged`.
-/
import Smooth.Proofs.Measure
import Smooth.Proofs.RuleInv
import Smooth.Proofs.FlagFresh

namespace Smooth
open Expr
variable {α : Type}

/-- what a flag promises about the node that carries it -/
def Honest (N : Num α) (s : Expr α) : Prop :=
  firstRule N s (reducers s) = none ∧ ∀ c ∈ children s, c.isRed = true

def Settled (N : Num α) (e : Expr α) : Prop :=
  ∀ s, Sub s e → s.isRed = true → Honest N s

theorem settled_new {N : Num α} (x : Expr α) (hx : x.flags = {}) (hr : x.isRed = true) :
    Honest N x := by
  rw [isRed, hx] at hr
  cases hr

theorem settled_iff (N : Num α) (e : Expr α) :
    Settled N e ↔ (e.isRed = true → Honest N e) ∧ ∀ c ∈ children e, Settled N c :=
  everywhere_iff

theorem Settled.child {N : Num α} {e c : Expr α} (h : Settled N e) (hc : c ∈ children e) :
    Settled N c :=
  Everywhere.child h hc

theorem honest_setFlags (N : Num α) (g : Flags) (e : Expr α) :
    Honest N (e.setFlags g) ↔ Honest N e := by
  unfold Honest
  rw [firstRule_setFlags, children_setFlags]

theorem settled_setFlags (N : Num α) (g : Flags) (e : Expr α) :
    Settled N (e.setFlags g) ↔ (g.red = true → Honest N e) ∧ ∀ c ∈ children e, Settled N c := by
  rw [settled_iff, children_setFlags, honest_setFlags, isRed, flags_setFlags]

theorem Settled.all_of_isRed {N : Num α} {e : Expr α} (h : Settled N e) (hr : e.isRed = true) :
    ∀ s, Sub s e → s.isRed = true ∧ firstRule N s (reducers s) = none := by
  intro s hs
  induction hs with
  | refl => exact ⟨hr, (h _ (Sub.refl _) hr).1⟩
  | child hc _ ih =>
    exact ih (h.child hc) ((h _ (Sub.refl _) hr).2 _ hc)

/-- an expression without any flag (in particular: as the constructors build it) is settled -/
theorem settled_fresh (N : Num α) (e : Expr α) : Settled N e.fresh :=
  fun s hs => settled_new s (ff_fresh_unflagged e s hs)

theorem sub_freshList_unflagged : ∀ (as : List (Expr α)) (c s : Expr α), c ∈ freshList as →
    Sub s c → s.isRed = false := by
  intro as c s hc hs
  rw [freshList_eq_map] at hc
  obtain ⟨a, -, rfl⟩ := List.mem_map.mp hc
  have h : s.flags = {} := ff_fresh_unflagged a s hs
  rw [isRed, h]

theorem rule_settled (N : Num α) (r : RuleId) {e e' : Expr α} (h : r.apply N e = some e')
    (hs : Settled N e) : Settled N e' :=
  rule_everywhere settled_new h hs

/-- the node after constant folding was tried (`self'` of `StepShape`) -/
theorem settled_self' {N : Num α} {e self' : Expr α} (hs : Settled N e)
    (hself : self' = e ∨ (self' = e.markFailed ∧ foldAttempt N e = some (.inr ()))) :
    Settled N self' ∧ children self' = children e := by
  rcases hself with rfl | ⟨rfl, _⟩
  · exact ⟨hs, rfl⟩
  · exact ⟨(settled_setFlags N _ e).mpr ⟨hs e (Sub.refl e), fun _ hc => hs.child hc⟩,
      children_setFlags _ e⟩

theorem StepShape.settled {N : Num α} {e e' : Expr α} {ev : StepEvent} (h : StepShape N e e' ev)
    (hs : Settled N e) : Settled N e' := by
  induction h with
  | already => exact hs
  | fold => exact (everywhere_new settled_new rfl).mpr nofun
  | child _ _ hch _ _ _ ih =>
    exact everywhere_rebuild_one settled_new hs hch
      (ih (hs.child (hch ▸ List.mem_append_right _ List.mem_cons_self)))
  | rule _ _ _ hself hfr =>
    exact rule_settled N _ (firstRule_eq_some hfr).1 (settled_self' hs hself).1
  | flag _ _ hkids hself hfr =>
    obtain ⟨hs', hch⟩ := settled_self' hs hself
    exact (settled_setFlags N _ _).mpr ⟨fun _ => ⟨hfr, hch ▸ hkids⟩, fun _ hc => hs'.child hc⟩

theorem stepF_settled (N : Num α) (e : Expr α) (hs : Settled N e) : Settled N (stepF N e).1 :=
  (stepF_shape N e).settled hs

theorem stepFirstUnreduced_settled (N : Num α) :
    ∀ (as : List (Expr α)) (p : List (Expr α) × StepEvent), stepFirstUnreduced N as = some p →
      (∀ a ∈ as, Settled N a) → ∀ a ∈ p.1, Settled N a := by
  intro as p h hs
  obtain ⟨pre, c, post, rfl, -, -, rfl⟩ := stepFirstUnreduced_eq_some.mp h
  simp only [List.forall_mem_append, List.forall_mem_cons] at hs ⊢
  exact ⟨hs.1, stepF_settled N c hs.2.1, hs.2.2⟩

theorem iterate_settled (N : Num α) {e : Expr α} (hs : Settled N e) :
    ∀ k, Settled N ((stepE N)^[k] e)
  | 0 => hs
  | k + 1 => by
    rw [Function.iterate_succ_apply']
    exact stepF_settled N _ (iterate_settled N hs k)

theorem fullyReduceLoop_settled (N : Num α) (fuel : Nat) (e : Expr α) (k : Nat)
    (tr : List StepEvent) (hs : Settled N e)
    (hw : (fullyReduceLoop N fuel e k tr).warned = false) :
    Settled N (fullyReduceLoop N fuel e k tr).expr := by
  obtain ⟨n, h, -⟩ := fullyReduceLoop_eq_iterate N fuel e k tr hw
  rw [h]
  exact iterate_settled N hs n

end Smooth
