/-
Proofs/WFFuelSym — symbolic differentiation keeps the flags honest (`Settled`, Proofs/Settled): the
trees built by `symFwd` and `symRev`/`syntheticPartials` consist of fresh (unflagged) nodes around
sub-trees of the original, so if every flag of the original keeps its promise, so does every flag of
the derivative: an instance of Proofs/SymClosed, generic in the number record `N`.  With Proofs/WFFuel
this gives that `_retrieve_synthetic_partial` and the table of an early `Differential` do not run out
of the model's fuel (no warning, depth ≤ 48999), and then the early routes of the object layer fail
with the library's own errors only (the `wfd_…_error_dm` lemmas, continuing Proofs/WFRoutes).
-/
import Smooth.Proofs.WFFuel
import Smooth.Proofs.Routes
import Smooth.Proofs.WFRoutes

namespace Smooth
open Expr
variable {α : Type} {N : Num α}

/-- a node built afresh carries no flag, so promises nothing -/
theorem settled_symClosed (N : Num α) : SymClosed N (Settled N) :=
  (everywhere_freshClosed fun x hx _ => settled_new x hx).symClosed N

theorem wfd_settled_symFwd (N : Num α) (x : String) : ∀ e : Expr α, Settled N e → Settled N (symFwd N x e) :=
  symFwd_closed (settled_symClosed N) x

theorem wfd_settled_symFwdList (N : Num α) (x : String) : ∀ es : List (Expr α),
    (∀ a ∈ es, Settled N a) → ∀ d ∈ symFwdList N x es, Settled N d :=
  fun _ => symFwdList_closed (settled_symClosed N) x

def wfdSettledA (N : Num α) (acc : SAcc α) : Prop := ∀ y s, SAcc.get? acc y = some s → Settled N s

theorem wfdSettledA_symRevList (N : Num α) : ∀ (es : List (Expr α)) (m : Expr α) (acc : SAcc α),
    (∀ a ∈ es, Settled N a) → Settled N m → wfdSettledA N acc → wfdSettledA N (symRevList N es m acc) :=
  fun _ _ => symRevList_closed (settled_symClosed N) (settled_symClosed N).all_addTo

theorem wfdSettledA_symRevMul (N : Num α) (all : List (Expr α)) (m : Expr α) : ∀ (i : Nat)
    (es : List (Expr α)) (acc : SAcc α), (∀ a ∈ all, Settled N a) → Settled N m →
    (∀ a ∈ es, Settled N a) → wfdSettledA N acc → wfdSettledA N (symRevMul N all m i es acc) :=
  fun i _ => symRevMul_closed (settled_symClosed N) (settled_symClosed N).all_addTo i

theorem wfd_settled_syntheticPartials (N : Num α) {e : Expr α} (h : Settled N e) {y : String} {s : Expr α}
    (hget : SAcc.get? (syntheticPartials N e) y = some s) : Settled N s :=
  syntheticPartials_closed (settled_symClosed N) h y s hget

theorem wfd_retrieve_ok (N : Num α) {e : Expr α} (x : String) (hs : Settled N e)
    (hw : (fullyReduce N (symFwd N x e)).warned = false) (hd : wfdDepth (symFwd N x e) ≤ 48999) :
    ∃ s w, retrieveSyntheticPartial N e x = .ok (s, w) := by
  obtain ⟨⟨s, w⟩, h⟩ := wfd_normalize_some N (wfd_settled_symFwd N x e hs) hw hd
  exact ⟨s, w, by rw [retrieveSyntheticPartial, h]; rfl⟩

theorem wfd_normalizeAll_ok (N : Num α) {e : Expr α} (hs : Settled N e)
    (hw : ∀ y s, SAcc.get? (syntheticPartials N e) y = some s →
      (fullyReduce N s).warned = false ∧ wfdDepth s ≤ 48999) :
    ∃ d w, normalizeAll N (syntheticPartials N e) = .ok (d, w) :=
  routes_normalizeAll_ok N _ fun a ha => by
    have hget := routes_syntheticPartials_mem N e ha
    obtain ⟨h1, h2⟩ := hw a.1 a.2 hget
    exact wfd_normalize_some N (wfd_settled_syntheticPartials N hs hget) h1 h2

section noFuel
variable {e : Expr ℝ} {x : String} {p : Point ℝ} {err : Err}

theorem ne_error_of_ok {β γ : Type} {r : R (β × γ)} (h : ∃ a b, r = .ok (a, b)) :
    ¬ r = .error err :=
  fun he =>
    let ⟨_, _, h⟩ := h
    nomatch h.symm.trans he

theorem wfd_routePE_error_dm (hwf : WF e) (hret : ∃ s w, retrieveSyntheticPartial realNum e x = .ok (s, w))
    (h : routePE realNum e x p = .error err) : err = .domain ∨ err = .missing :=
  (wfd_routePE_error_or hwf h).resolve_left (ne_error_of_ok hret)

theorem wfd_routePA_error_dm (hwf : WF e) (hret : ∃ s w, retrieveSyntheticPartial realNum e x = .ok (s, w))
    (h : routePA realNum e x p = .error err) : err = .domain ∨ err = .missing :=
  (wfd_routePA_error_or hwf h).resolve_left (ne_error_of_ok hret)

theorem wfd_routeFCAE_error_dm (hwf : WF e)
    (hn : ∃ d w, normalizeAll realNum (syntheticPartials realNum e) = .ok (d, w))
    (h : routeFCAE realNum e x p = .error err) : err = .domain ∨ err = .missing :=
  (wfd_routeFCAE_error_or hwf h).resolve_left (ne_error_of_ok hn)

theorem wfd_routeFCE_error_dm (hwf : WF e)
    (hn : ∃ d w, normalizeAll realNum (syntheticPartials realNum e) = .ok (d, w))
    (h : routeFCE realNum e x p = .error err) : err = .domain ∨ err = .missing :=
  wfd_routeFCAE_error_dm hwf hn h

theorem wfd_routeFATE_error_dm (hwf : WF e)
    (hn : ∃ d w, normalizeAll realNum (syntheticPartials realNum e) = .ok (d, w))
    (h : routeFATE realNum e x p = .error err) : err = .domain ∨ err = .missing :=
  (wfd_routeFATE_error_or hwf h).resolve_left (ne_error_of_ok hn)

end noFuel

end Smooth
