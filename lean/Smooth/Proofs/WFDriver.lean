/-
Proofs/WFDriver — well-formedness (`WF`: n ≥ 1, bases > 0, logarithm base ≠ 1) is preserved by
simplification with no side condition: by each of the 46 rewrite rules (the K1 rule
`NthRoot(NthPower(u, m), n) ⇒ NthPower(NthRoot(u, n), m)` included: it only exchanges the two degrees
and changes the meaning, not the well-formedness), by constant folding, `_take_reduction_step`, the
`_fully_reduce` loop, the normal-form pass and `_normalize` for every budget and fuel; hence by
`_retrieve_synthetic_partial`, the table of the early `Differential` and the six expression routes.
`WF` is a condition on the exponents and bases alone (`ParamOK wfParams`, Proofs/Param), closed under
what the rules do to them.
-/
import Smooth.Proofs.Param
import Smooth.Proofs.SymForward
import Smooth.Proofs.WFSym
import Smooth.Proofs.Routes

namespace Smooth
open Classical Expr

/-- what `WF` asks of exponents and bases -/
def wfParams : ParamSpec ℝ where
  npow n := 1 ≤ n
  nroot n := 1 ≤ n
  exp b := 0 < b
  log b := 0 < b ∧ b ≠ 1

theorem wf_iff_paramOK (e : Expr ℝ) : WF e ↔ ParamOK wfParams e := by
  induction e using Expr.ind with
  | const | var => simp only [WF, paramOK_const, paramOK_var]
  | add _ _ ih => rw [WF, wfList_iff, paramOK_add]; exact forall₂_congr ih
  | mul _ _ ih => rw [WF, wfList_iff, paramOK_mul]; exact forall₂_congr ih
  | minus _ _ _ ihl ihr => rw [WF, paramOK_minus, ihl, ihr]
  | div _ _ _ ihl ihr => rw [WF, paramOK_div, ihl, ihr]
  | pow _ _ _ ihl ihr => rw [WF, paramOK_pow, ihl, ihr]
  | neg _ _ ih => rw [WF, paramOK_neg, ih]
  | recip _ _ ih => rw [WF, paramOK_recip, ih]
  | cos _ _ ih => rw [WF, paramOK_cos, ih]
  | sin _ _ ih => rw [WF, paramOK_sin, ih]
  | npow _ _ _ ih => rw [WF, paramOK_npow, ih]; exact Iff.rfl
  | nroot _ _ _ ih => rw [WF, paramOK_nroot, ih]; exact Iff.rfl
  | exp _ _ _ ih => rw [WF, paramOK_exp, ih]; exact Iff.rfl
  | log _ _ _ ih => rw [WF, paramOK_log, ih]; exact and_assoc.symm

theorem wf_eq_paramOK : WF = ParamOK wfParams :=
  funext fun e => propext (wf_iff_paramOK e)

theorem wfParams_closed : wfParams.Closed realNum where
  npow_mul := Nat.mul_pos
  nroot_mul := Nat.mul_pos
  npow_div_gcd m h :=
    Nat.div_pos (Nat.le_of_dvd h (Nat.gcd_dvd_right m _)) (Nat.gcd_pos_of_pos_right m h)
  nroot_div_gcd n h :=
    Nat.div_pos (Nat.le_of_dvd h (Nat.gcd_dvd_left _ n)) (Nat.gcd_pos_of_pos_left n h)
  npow_toNat hk := by show 1 ≤ Int.toNat _; omega
  exp_base hp _ := of_decide_eq_true ((realNum_isPos _).symm.trans hp)

theorem wfd_driverClosed : DriverClosed realNum WF :=
  wf_eq_paramOK ▸ wfParams_closed.driverClosed

theorem wfd_rule (r : RuleId) {e e' : Expr ℝ} (h : r.apply realNum e = some e') (hs : WF e) :
    WF e' :=
  wfd_driverClosed.rule h hs

theorem wfd_fold (v : ℝ) : WF (mkConst v : Expr ℝ) := trivial

theorem wfd_stepF (e : Expr ℝ) (hs : WF e) : WF (stepF realNum e).1 :=
  wfd_driverClosed.stepF hs

theorem wfd_stepFirstUnreduced :
    ∀ (as : List (Expr ℝ)) (p : List (Expr ℝ) × StepEvent), stepFirstUnreduced realNum as = some p →
      (∀ a ∈ as, WF a) → ∀ a ∈ p.1, WF a :=
  fun _ _ h hs => wfd_driverClosed.stepFirstUnreduced h hs

/-- also when the budget runs out: only a flag is set then -/
theorem wfd_fullyReduceWith (bound : Nat) {e : Expr ℝ} (hs : WF e) :
    WF (fullyReduceWith realNum bound e).expr :=
  wfd_driverClosed.fullyReduceWith bound hs

theorem wfd_fullyReduce {e : Expr ℝ} (hs : WF e) :
    WF (fullyReduce realNum e).expr :=
  wfd_fullyReduceWith REDUCTION_STEPS_BOUND hs

theorem wfd_normalizeF (bound fuel : Nat) {e e' : Expr ℝ} {w : Bool}
    (hs : WF e) (h : normalizeF realNum bound fuel e = some (e', w)) : WF e' :=
  wfd_driverClosed.normalizeF bound fuel hs h

theorem wfd_normReducedF (bound fuel : Nat) {e e' : Expr ℝ} {w : Bool}
    (hs : WF e) (h : normReducedF realNum bound fuel e = some (e', w)) : WF e' :=
  wfd_driverClosed.normReducedF bound fuel hs h

theorem wfd_normalize {e e' : Expr ℝ} {w : Bool} (hs : WF e)
    (h : normalize realNum e = some (e', w)) : WF e' :=
  wfd_normalizeF _ _ hs h

theorem wfd_retrieve {e s : Expr ℝ} {x : String} {w : Bool}
    (h : retrieveSyntheticPartial realNum e x = .ok (s, w)) (hwf : WF e) : WF s :=
  wfd_normalize (WF_symFwd x e hwf) (liftFuel_eq_ok.mp h)

theorem wfd_normalizeAll {acc d : SAcc ℝ} {w : Bool}
    (h : normalizeAll realNum acc = .ok (d, w)) (hacc : SAccWF acc) : SAccWF d := by
  intro b hb
  obtain ⟨a, ha, _, w', hn⟩ := routes_forall₂_mem_right (routes_normalizeAll_forall₂ realNum h) b hb
  exact wfd_normalize (hacc a ha) hn

theorem wfd_differential_table {e : Expr ℝ} {d : SAcc ℝ} {w : Bool}
    (h : normalizeAll realNum (syntheticPartials realNum e) = .ok (d, w)) (hwf : WF e) :
    ∀ b ∈ d, WF b.2 :=
  wfd_normalizeAll h (WF_syntheticPartials e hwf)

theorem wfd_bind_singleVar {e s : Expr ℝ} {w : Bool}
    (h : (do let x ← singleVarName e; retrieveSyntheticPartial realNum e x) = .ok (s, w))
    (hwf : WF e) : WF s := by
  obtain ⟨x, -, h⟩ := R.bind_eq_ok_iff.mp h
  exact wfd_retrieve h hwf

theorem wfd_routeExprP {e s : Expr ℝ} {x : String} {w : Bool}
    (h : routeExprP realNum e x = .ok (s, w)) (hwf : WF e) : WF s := by
  rw [routeExprP_eq] at h; exact wfd_retrieve h hwf

theorem wfd_routeExprPE {e s : Expr ℝ} {x : String} {w : Bool}
    (h : routeExprPE realNum e x = .ok (s, w)) (hwf : WF e) : WF s := by
  rw [routeExprPE_eq] at h; exact wfd_retrieve h hwf

theorem wfd_routeExprD {e s : Expr ℝ} {w : Bool}
    (h : routeExprD realNum e = .ok (s, w)) (hwf : WF e) : WF s := by
  rw [routeExprD_eq] at h; exact wfd_bind_singleVar h hwf

theorem wfd_routeExprDE {e s : Expr ℝ} {w : Bool}
    (h : routeExprDE realNum e = .ok (s, w)) (hwf : WF e) : WF s := by
  rw [routeExprDE_eq] at h; exact wfd_bind_singleVar h hwf

theorem wfd_routeExprFL {e s : Expr ℝ} {x : String} {w : Bool}
    (h : routeExprFL realNum e x = .ok (s, w)) (hwf : WF e) : WF s := by
  rw [routeExprFL_eq] at h; exact wfd_retrieve h hwf

theorem wfd_routeExprFE {e s : Expr ℝ} {x : String} {w : Bool}
    (h : routeExprFE realNum e x = .ok (s, w)) (hwf : WF e) : WF s := by
  rw [routeExprFE_eq] at h
  obtain ⟨⟨d, w0⟩, hn, h⟩ := R.bind_eq_ok_iff.mp h
  cases hg : SAcc.get? d x with
  | none =>
    simp only [hg] at h
    obtain ⟨⟨s', w'⟩, hret, h⟩ := R.bind_eq_ok_iff.mp h
    obtain ⟨rfl, -⟩ := Prod.mk.inj (Except.ok.inj h)
    exact wfd_retrieve hret hwf
  | some s' =>
    simp only [hg] at h
    obtain ⟨rfl, -⟩ := Prod.mk.inj (Except.ok.inj h)
    exact SAccWF_get? (wfd_differential_table hn hwf) hg

end Smooth
