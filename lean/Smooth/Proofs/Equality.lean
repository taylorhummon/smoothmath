/-
Proofs/Equality — `__eq__` (`beq`), `__hash__` (`hashKey`) and `Point.__eq__` (`pointBeq`).
`StructEq` is the specification of expression equality, written independently of `beq`; `beq` decides
it (with the arguments swapped, unless `N.eq` is symmetric), `hashKey` respects it, and `pointBeq` is
dictionary equality.  A lemma asks for the one law of `N.eq` it needs; `EqLaws` bundles the three.
-/
import Smooth.Real.Instance
import Smooth.Model.Instances
import Batteries.Data.List.Perm
import Smooth.Proofs.NodeView

namespace Smooth
variable {α : Type}
open Expr

/-- `N.eq` (Python's `==` on numbers) is an equivalence relation. -/
structure EqLaws (N : Num α) : Prop where
  refl : ∀ x, N.eq x x = true
  symm : ∀ x y, N.eq x y = true → N.eq y x = true
  trans : ∀ x y z, N.eq x y = true → N.eq y z = true → N.eq x z = true

theorem realNum_eqLaws : EqLaws realNum where
  refl x := by simp
  symm x y h := by simpa [eq_comm] using h
  trans x y z h₁ h₂ := by
    simp only [realNum_eq, decide_eq_true_eq] at *
    exact h₁.trans h₂

theorem qeNum_eq (a b : QE) : qeNum.eq a b = (a.q == b.q) := rfl

/-- The exact-rational instance (Model/Instances) compares the rational and ignores the
"representable" flag, so distinct elements of the carrier can be `eq` (as `2` and `2.0` are in
Python); it is an equivalence all the same. -/
theorem qeNum_eqLaws : EqLaws qeNum where
  refl x := by simp [qeNum_eq]
  symm x y h := by
    simp only [qeNum_eq, beq_iff_eq] at *
    exact h.symm
  trans x y z h₁ h₂ := by
    simp only [qeNum_eq, beq_iff_eq] at *
    exact h₁.trans h₂

mutual
/-- `StructEq N a b` : `a` and `b` are the same constructor applied to pairwise `StructEq` arguments in
the same order; numeric parameters (value, base) are related by `N.eq` (left parameter first),
`n` and variable names are equal; the flags are not looked at. -/
inductive StructEq (N : Num α) : Expr α → Expr α → Prop
  | const {f g : Flags} {v w : α} : N.eq v w = true → StructEq N (.const f v) (.const g w)
  | var {f g : Flags} {x : String} : StructEq N (.var f x) (.var g x)
  | add {f g : Flags} {as bs : List (Expr α)} :
      StructEqList N as bs → StructEq N (.add f as) (.add g bs)
  | mul {f g : Flags} {as bs : List (Expr α)} :
      StructEqList N as bs → StructEq N (.mul f as) (.mul g bs)
  | minus {f g : Flags} {a b c d : Expr α} :
      StructEq N a c → StructEq N b d → StructEq N (.minus f a b) (.minus g c d)
  | div {f g : Flags} {a b c d : Expr α} :
      StructEq N a c → StructEq N b d → StructEq N (.div f a b) (.div g c d)
  | pow {f g : Flags} {a b c d : Expr α} :
      StructEq N a c → StructEq N b d → StructEq N (.pow f a b) (.pow g c d)
  | neg {f g : Flags} {a b : Expr α} : StructEq N a b → StructEq N (.neg f a) (.neg g b)
  | recip {f g : Flags} {a b : Expr α} : StructEq N a b → StructEq N (.recip f a) (.recip g b)
  | cos {f g : Flags} {a b : Expr α} : StructEq N a b → StructEq N (.cos f a) (.cos g b)
  | sin {f g : Flags} {a b : Expr α} : StructEq N a b → StructEq N (.sin f a) (.sin g b)
  | npow {f g : Flags} {a b : Expr α} {n : Nat} :
      StructEq N a b → StructEq N (.npow f a n) (.npow g b n)
  | nroot {f g : Flags} {a b : Expr α} {n : Nat} :
      StructEq N a b → StructEq N (.nroot f a n) (.nroot g b n)
  | exp {f g : Flags} {a b : Expr α} {x y : α} :
      StructEq N a b → N.eq x y = true → StructEq N (.exp f a x) (.exp g b y)
  | log {f g : Flags} {a b : Expr α} {x y : α} :
      StructEq N a b → N.eq x y = true → StructEq N (.log f a x) (.log g b y)
inductive StructEqList (N : Num α) : List (Expr α) → List (Expr α) → Prop
  | nil : StructEqList N [] []
  | cons {a b : Expr α} {as bs : List (Expr α)} :
      StructEq N a b → StructEqList N as bs → StructEqList N (a :: as) (b :: bs)
end

theorem structEqList_flip_of_beqList {N : Num α} {as : List (Expr α)}
    (h : ∀ a ∈ as, ∀ b, beq N a b = true → StructEq N b a) :
    ∀ bs, beqList N as bs = true → StructEqList N bs as := by
  induction as with
  | nil => intro bs hb; cases bs with | nil => exact .nil | cons => exact Bool.noConfusion hb
  | cons a as ih =>
    intro bs hb
    cases bs with
    | nil => exact Bool.noConfusion hb
    | cons b bs =>
      rw [beqList, Bool.and_eq_true] at hb
      exact .cons (h a List.mem_cons_self b hb.1)
        (ih (fun c hc => h c (List.mem_cons_of_mem _ hc)) bs hb.2)

theorem structEq_flip_of_beq (N : Num α) (a b : Expr α) : beq N a b = true → StructEq N b a := by
  induction a, b using Expr.ind₂ with
  | off a b hne => exact fun h => absurd (beq_ctor_eq h) hne
  | const => exact .const
  | var =>
    intro h
    rw [beq, beq_iff_eq] at h
    exact h ▸ .var
  | add _ _ _ _ ih => exact fun h => .add (structEqList_flip_of_beqList ih _ h)
  | mul _ _ _ _ ih => exact fun h => .mul (structEqList_flip_of_beqList ih _ h)
  | minus _ _ _ _ _ _ ihl ihr | div _ _ _ _ _ _ ihl ihr | pow _ _ _ _ _ _ ihl ihr =>
    intro h
    rw [beq, Bool.and_eq_true] at h
    constructor
    · exact ihl _ h.1
    · exact ihr _ h.2
  | neg _ _ _ _ ih | recip _ _ _ _ ih | cos _ _ _ _ ih | sin _ _ _ _ ih =>
    intro h
    constructor
    exact ih _ h
  | npow _ _ _ _ _ _ ih | nroot _ _ _ _ _ _ ih =>
    intro h
    rw [beq, Bool.and_eq_true, beq_iff_eq] at h
    rw [h.2]
    constructor
    exact ih _ h.1
  | exp _ _ _ _ _ _ ih | log _ _ _ _ _ _ ih =>
    intro h
    rw [beq, Bool.and_eq_true] at h
    constructor
    · exact ih _ h.1
    · exact h.2

theorem beqList_of_structEqList_flip {N : Num α} {as : List (Expr α)}
    (h : ∀ a ∈ as, ∀ b, StructEq N b a → beq N a b = true) :
    ∀ bs, StructEqList N bs as → beqList N as bs = true := by
  induction as with
  | nil => intro bs hb; cases hb; rfl
  | cons a as ih =>
    intro bs hb
    cases hb with
    | cons h₁ h₂ =>
      rw [beqList, h a List.mem_cons_self _ h₁,
        ih (fun c hc => h c (List.mem_cons_of_mem _ hc)) _ h₂]
      rfl

theorem beq_of_structEq_flip (N : Num α) (a : Expr α) :
    ∀ b, StructEq N b a → beq N a b = true := by
  induction a using Expr.ind with
  | const f v => intro b h; cases h; assumption
  | var f x => intro b h; cases h; simp [beq]
  | add f as ih | mul f as ih =>
    intro b h; cases h; exact beqList_of_structEqList_flip ih _ ‹_›
  | minus f l r ihl ihr | div f l r ihl ihr | pow f l r ihl ihr =>
    intro b h; cases h; rw [beq, ihl _ ‹_›, ihr _ ‹_›]; rfl
  | neg f u ih | recip f u ih | cos f u ih | sin f u ih => intro b h; cases h; exact ih _ ‹_›
  | npow f u n ih | nroot f u n ih => intro b h; cases h; simp [beq, ih _ ‹_›]
  | exp f u x ih | log f u x ih =>
    intro b h; cases h; rw [beq, ih _ ‹_›, ‹N.eq _ _ = true›]; rfl

/-- Unconditionally, `beq N a b` decides `StructEq N b a`: the model hands the parameters to `N.eq`
right-to-left (`w == v`). -/
theorem beq_iff_structEq_flip (N : Num α) (a b : Expr α) : beq N a b = true ↔ StructEq N b a :=
  ⟨structEq_flip_of_beq N a b, beq_of_structEq_flip N a b⟩

theorem beqList_iff_structEqList_flip (N : Num α) (as bs : List (Expr α)) :
    beqList N as bs = true ↔ StructEqList N bs as :=
  ⟨structEqList_flip_of_beqList (fun a _ => structEq_flip_of_beq N a) bs,
    beqList_of_structEqList_flip (fun a _ => beq_of_structEq_flip N a) bs⟩

theorem beqList_symm_of_symm {N : Num α} (hs : ∀ x y, N.eq x y = true → N.eq y x = true)
    {as bs : List (Expr α)} (h : beqList N as bs = true) : beqList N bs as = true :=
  beqList_symm_of (fun _ _ _ => beq_symm_of hs) h

theorem beq_iff_structEq_of_symm {N : Num α} (hs : ∀ x y, N.eq x y = true → N.eq y x = true)
    (a b : Expr α) : beq N a b = true ↔ StructEq N a b :=
  ⟨fun h => (beq_iff_structEq_flip N b a).mp (beq_symm_of hs h),
    fun h => beq_symm_of hs ((beq_iff_structEq_flip N b a).mpr h)⟩

theorem beqList_iff_structEqList_of_symm {N : Num α}
    (hs : ∀ x y, N.eq x y = true → N.eq y x = true) (as bs : List (Expr α)) :
    beqList N as bs = true ↔ StructEqList N as bs :=
  ⟨fun h => (beqList_iff_structEqList_flip N bs as).mp (beqList_symm_of_symm hs h),
    fun h => beqList_symm_of_symm hs ((beqList_iff_structEqList_flip N bs as).mpr h)⟩

theorem structEqList_iff_forall₂ (N : Num α) (as bs : List (Expr α)) :
    StructEqList N as bs ↔ List.Forall₂ (StructEq N) as bs := by
  constructor
  · intro h
    induction as generalizing bs with
    | nil => cases h; exact .nil
    | cons a as ih => cases h with | cons h₁ h₂ => exact .cons h₁ (ih _ h₂)
  · intro h
    induction h with
    | nil => exact .nil
    | cons h₁ _ ih => exact .cons h₁ ih

theorem StructEqList.length_eq {N : Num α} {as bs : List (Expr α)} (h : StructEqList N as bs) :
    as.length = bs.length :=
  ((structEqList_iff_forall₂ N as bs).mp h).length_eq

theorem beqList_iff_forall₂ (N : Num α) (as bs : List (Expr α)) :
    beqList N as bs = true ↔ List.Forall₂ (fun a b => beq N a b = true) as bs := by
  induction as generalizing bs with
  | nil => cases bs <;> simp [beqList]
  | cons a as ih => cases bs <;> simp [beqList, ih]

theorem beqList_length_eq {N : Num α} {as bs : List (Expr α)} (h : beqList N as bs = true) :
    as.length = bs.length :=
  ((beqList_iff_forall₂ N as bs).mp h).length_eq

theorem hashKeyList_same_of {N : Num α} {as : List (Expr α)}
    (h : ∀ a ∈ as, ∀ b, StructEq N a b → HKey.same N (hashKey a) (hashKey b) = true) :
    ∀ bs, StructEqList N as bs → HKey.sameList N (hashKeyList as) (hashKeyList bs) = true := by
  induction as with
  | nil => intro bs hb; cases hb; rfl
  | cons a as ih =>
    intro bs hb
    cases hb with
    | cons h₁ h₂ =>
      rw [hashKeyList, hashKeyList, HKey.sameList, h a List.mem_cons_self _ h₁,
        ih (fun c hc => h c (List.mem_cons_of_mem _ hc)) _ h₂]
      rfl

theorem hashKey_same_of_structEq (N : Num α) (a : Expr α) :
    ∀ b, StructEq N a b → HKey.same N (hashKey a) (hashKey b) = true := by
  induction a using Expr.ind with
  | const f v => intro b h; cases h; simpa [hashKey, HKey.same, HKey.sameList]
  | var f x => intro b h; cases h; simp [hashKey, HKey.same, HKey.sameList]
  | add f as ih | mul f as ih =>
    intro b h
    cases h
    rename_i h
    simp [hashKey, HKey.same, HKey.sameList, h.length_eq, hashKeyList_same_of ih _ h]
  | minus f l r ihl ihr | div f l r ihl ihr | pow f l r ihl ihr =>
    intro b h
    cases h
    rename_i h₁ h₂
    simp [hashKey, HKey.same, HKey.sameList, ihl _ h₁, ihr _ h₂]
  | neg f u ih | recip f u ih | cos f u ih | sin f u ih | npow f u n ih | nroot f u n ih =>
    intro b h
    cases h
    rename_i h
    simp [hashKey, HKey.same, HKey.sameList, ih _ h]
  | exp f u x ih | log f u x ih =>
    intro b h
    cases h
    rename_i h hx
    simp [hashKey, HKey.same, HKey.sameList, ih _ h, hx]

theorem hashKeyList_same_of_structEqList (N : Num α) :
    ∀ as bs : List (Expr α), StructEqList N as bs →
      HKey.sameList N (hashKeyList as) (hashKeyList bs) = true :=
  fun _ => hashKeyList_same_of fun a _ => hashKey_same_of_structEq N a

theorem hashKey_same_of_beq {N : Num α} (hs : ∀ x y, N.eq x y = true → N.eq y x = true)
    {a b : Expr α} (hab : beq N a b = true) : HKey.same N (hashKey a) (hashKey b) = true :=
  hashKey_same_of_structEq N a b ((beq_iff_structEq_of_symm hs a b).mp hab)

/-! ### lookup in a point

General facts about `Point.get?`, beside `Point.get?_cons` of Proofs/Base; nothing here mentions
`pointBeq`. -/

theorem Point.get?_eq_none_iff (p : Point α) (x : String) :
    Point.get? p x = none ↔ x ∉ p.map Prod.fst := by
  induction p with
  | nil => simp [Point.get?]
  | cons yw rest ih =>
    rw [Point.get?_cons, List.map_cons, List.mem_cons, not_or, ← ih]
    split
    · next hyx => simp [hyx.symm]
    · next hyx => simp [Ne.symm hyx]

theorem Point.mem_of_get?_eq_some {p : Point α} {x : String} {v : α}
    (h : Point.get? p x = some v) : (x, v) ∈ p := by
  induction p with
  | nil => cases h
  | cons yw rest ih =>
    rw [Point.get?_cons] at h
    split at h
    · next hyx => cases h; exact hyx ▸ List.mem_cons_self
    · exact List.mem_cons_of_mem _ (ih h)

theorem Point.get?_eq_some_of_mem {p : Point α} {x : String} {v : α}
    (hnd : (p.map Prod.fst).Nodup) (h : (x, v) ∈ p) : Point.get? p x = some v := by
  induction p with
  | nil => cases h
  | cons yw rest ih =>
    rw [List.map_cons, List.nodup_cons] at hnd
    rw [Point.get?_cons]
    rcases List.mem_cons.mp h with rfl | h
    · exact if_pos rfl
    · exact (if_neg fun (e : yw.1 = x) => hnd.1 (e ▸ List.mem_map.mpr ⟨(x, v), h, rfl⟩)).trans
        (ih hnd.2 h)

/-! ### `pointBeq` is dictionary equality -/

theorem pointBeq_iff_forall (N : Num α) (p q : Point α) :
    pointBeq N p q = true ↔
      p.length = q.length ∧
        ∀ x v, (x, v) ∈ p → ∃ w, Point.get? q x = some w ∧ N.eq v w = true := by
  unfold pointBeq
  simp only [Bool.and_eq_true, beq_iff_eq, List.all_eq_true, Prod.forall]
  refine and_congr_right fun _ => forall_congr' fun x => forall_congr' fun v =>
    imp_congr_right fun _ => ?_
  cases Point.get? q x <;> simp

/-- the two dictionaries answer a lookup of `x` alike: both miss, or both hit with `N.eq` values -/
def LookupAgree (N : Num α) (p q : Point α) (x : String) : Prop :=
  match Point.get? p x, Point.get? q x with
  | some v, some w => N.eq v w = true
  | none, none => True
  | _, _ => False

theorem LookupAgree.symm {N : Num α} (hs : ∀ x y, N.eq x y = true → N.eq y x = true)
    {p q : Point α} {x : String} (h : LookupAgree N p q x) : LookupAgree N q p x := by
  unfold LookupAgree at *
  cases hp : Point.get? p x <;> cases hq : Point.get? q x <;> simp_all

theorem pointBeq_names_perm {N : Num α} {p q : Point α} (hp : (p.map Prod.fst).Nodup)
    (h : pointBeq N p q = true) : (p.map Prod.fst).Perm (q.map Prod.fst) := by
  obtain ⟨hlen, hall⟩ := (pointBeq_iff_forall N p q).mp h
  have hsub : p.map Prod.fst ⊆ q.map Prod.fst := by
    intro x hx
    obtain ⟨⟨x', v⟩, hm, rfl⟩ := List.mem_map.mp hx
    obtain ⟨w, hw, _⟩ := hall x' v hm
    by_contra hc
    rw [← Point.get?_eq_none_iff] at hc
    simp [hc] at hw
  exact (List.subperm_of_subset hp hsub).perm_of_length_le (by simp [hlen])

theorem pointBeq_nodup_right {N : Num α} {p q : Point α} (hp : (p.map Prod.fst).Nodup)
    (h : pointBeq N p q = true) : (q.map Prod.fst).Nodup :=
  (pointBeq_names_perm hp h).nodup_iff.mp hp

theorem pointBeq_iff_lookup (N : Num α) {p : Point α} (q : Point α) (hp : (p.map Prod.fst).Nodup) :
    pointBeq N p q = true ↔ p.length = q.length ∧ ∀ x, LookupAgree N p q x := by
  constructor
  · intro h
    obtain ⟨hlen, hall⟩ := (pointBeq_iff_forall N p q).mp h
    refine ⟨hlen, fun x => ?_⟩
    unfold LookupAgree
    cases hpx : Point.get? p x with
    | none =>
      have : x ∉ q.map Prod.fst := fun hx =>
        (Point.get?_eq_none_iff p x).mp hpx ((pointBeq_names_perm hp h).mem_iff.mpr hx)
      simp [(Point.get?_eq_none_iff q x).mpr this]
    | some v =>
      obtain ⟨w, hw, hvw⟩ := hall x v (Point.mem_of_get?_eq_some hpx)
      simp [hw, hvw]
  · rintro ⟨hlen, hag⟩
    refine (pointBeq_iff_forall N p q).mpr ⟨hlen, fun x v hm => ?_⟩
    have h := hag x
    unfold LookupAgree at h
    rw [Point.get?_eq_some_of_mem hp hm] at h
    cases hq : Point.get? q x with
    | none => simp [hq] at h
    | some w => exact ⟨w, rfl, by simpa [hq] using h⟩

theorem pointBeq_refl_of {N : Num α} (hr : ∀ v, N.eq v v = true) {p : Point α}
    (hp : (p.map Prod.fst).Nodup) : pointBeq N p p = true :=
  (pointBeq_iff_forall N p p).mpr
    ⟨rfl, fun _ v hm => ⟨v, Point.get?_eq_some_of_mem hp hm, hr v⟩⟩

theorem pointBeq_symm_of {N : Num α} (hs : ∀ x y, N.eq x y = true → N.eq y x = true)
    {p q : Point α} (hp : (p.map Prod.fst).Nodup) (hpq : pointBeq N p q = true) :
    pointBeq N q p = true := by
  obtain ⟨hlen, hag⟩ := (pointBeq_iff_lookup N q hp).mp hpq
  exact (pointBeq_iff_lookup N p (pointBeq_nodup_right hp hpq)).mpr
    ⟨hlen.symm, fun x => (hag x).symm hs⟩

theorem pointBeq_trans_of {N : Num α}
    (ht : ∀ x y z, N.eq x y = true → N.eq y z = true → N.eq x z = true) {p q r : Point α}
    (hpq : pointBeq N p q = true) (hqr : pointBeq N q r = true) : pointBeq N p r = true := by
  obtain ⟨hlen, hall⟩ := (pointBeq_iff_forall N p q).mp hpq
  obtain ⟨hlen', hall'⟩ := (pointBeq_iff_forall N q r).mp hqr
  refine (pointBeq_iff_forall N p r).mpr ⟨hlen.trans hlen', fun x v hm => ?_⟩
  obtain ⟨w, hw, hvw⟩ := hall x v hm
  obtain ⟨u, hu, hwu⟩ := hall' x w (Point.mem_of_get?_eq_some hw)
  exact ⟨u, hu, ht _ _ _ hvw hwu⟩

theorem pointBeq_of_perm {N : Num α} (hr : ∀ v, N.eq v v = true) {p p' : Point α}
    (hp : (p.map Prod.fst).Nodup) (hperm : p.Perm p') : pointBeq N p p' = true := by
  have hp' : (p'.map Prod.fst).Nodup := (hperm.map Prod.fst).nodup_iff.mp hp
  exact (pointBeq_iff_forall N p p').mpr
    ⟨hperm.length_eq, fun _ v hm =>
      ⟨v, Point.get?_eq_some_of_mem hp' (hperm.mem_iff.mp hm), hr v⟩⟩

end Smooth
