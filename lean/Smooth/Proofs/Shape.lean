/-
Proofs/Shape — a node and its operands, uniformly over the 15 classes, and the anatomy of one call of
`_take_reduction_step`.  Mathlib-free, generic in the number record.

With `children` and `rebuildNode`, `stepF` of every class is the shared body `stepNode` around the step
of the first unflagged operand (`stepF_eq`), and what a step can do is the five cases of `StepShape`.
What one step keeps or lowers is proved by induction over `StepShape`; that a step refines is not:
`stepF_spec` (Proofs/DriverSound) is an induction on the expression.
-/
import Smooth.Proofs.Base

namespace Smooth
open Expr
variable {α : Type}

/-- the operands of a node -/
def children : Expr α → List (Expr α)
  | .const _ _ | .var _ _ => []
  | .add _ as | .mul _ as => as
  | .minus _ l r | .div _ l r | .pow _ l r => [l, r]
  | .neg _ u | .recip _ u | .npow _ u _ | .nroot _ u _ | .exp _ u _ | .log _ u _ | .cos _ u
  | .sin _ u => [u]

/-- `Sub s e`: `s` is a node of `e` (with everything below it) -/
inductive Sub : Expr α → Expr α → Prop
  | refl (e : Expr α) : Sub e e
  | child {s c e : Expr α} : c ∈ children e → Sub s c → Sub s e

theorem Sub.trans {a b c : Expr α} (h1 : Sub a b) (h2 : Sub b c) : Sub a c := by
  induction h2 with
  | refl => exact h1
  | child hc _ ih => exact Sub.child hc ih

theorem Expr.ind_children {P : Expr α → Prop} (h : ∀ e, (∀ c ∈ children e, P c) → P e) :
    ∀ e, P e := by
  intro e
  induction e using Expr.ind with
  | const | var => exact h _ (fun _ hc => nomatch hc)
  | add _ _ ih | mul _ _ ih => exact h _ ih
  | minus _ _ _ ihl ihr | div _ _ _ ihl ihr | pow _ _ _ ihl ihr =>
    exact h _ (List.forall_mem_cons.mpr ⟨ihl, List.forall_mem_cons.mpr ⟨ihr, fun _ hc => nomatch hc⟩⟩)
  | neg _ _ ih | recip _ _ ih | cos _ _ ih | sin _ _ ih | npow _ _ _ ih | nroot _ _ _ ih
  | exp _ _ _ ih | log _ _ _ ih =>
    exact h _ (List.forall_mem_cons.mpr ⟨ih, fun _ hc => nomatch hc⟩)

theorem children_setFlags (g : Flags) (e : Expr α) : children (e.setFlags g) = children e := by
  cases e <;> rfl

theorem children_fresh (e : Expr α) : children e.fresh = freshList (children e) := by
  cases e <;> rfl

theorem isRed_eq (e : Expr α) : e.isRed = e.flags.red := rfl

theorem flags_setFlags (g : Flags) (e : Expr α) : (e.setFlags g).flags = g := by
  cases e <;> rfl

theorem isRed_markFailed (e : Expr α) : e.markFailed.isRed = e.isRed := by
  rw [isRed, markFailed, flags_setFlags]
  rfl

theorem reducers_setFlags (g : Flags) (e : Expr α) : reducers (e.setFlags g) = reducers e := by
  cases e <;> rfl

-- No rule looks at the root's flags.  Where a rule also matches on an operand, which is a variable
-- here, the two sides agree only after the rule's `match` is unfolded although it cannot fire.
set_option smartUnfolding false in
theorem firstRule_setFlags (N : Num α) (g : Flags) (e : Expr α) :
    firstRule N (e.setFlags g) (reducers (e.setFlags g)) = firstRule N e (reducers e) := by
  cases e <;> rfl

def Everywhere (At : Expr α → Prop) (e : Expr α) : Prop := ∀ s, Sub s e → At s

theorem everywhere_iff {At : Expr α → Prop} {e : Expr α} :
    Everywhere At e ↔ At e ∧ ∀ c ∈ children e, Everywhere At c := by
  constructor
  · intro h
    exact ⟨h e (Sub.refl e), fun c hc s hs => h s (Sub.child hc hs)⟩
  · rintro ⟨h1, h2⟩ s hs
    cases hs with
    | refl => exact h1
    | child hc hs => exact h2 _ hc s hs

theorem Everywhere.sub {At : Expr α → Prop} {e s : Expr α} (h : Everywhere At e) (hs : Sub s e) :
    Everywhere At s :=
  fun t ht => h t (ht.trans hs)

theorem Everywhere.child {At : Expr α → Prop} {e c : Expr α} (h : Everywhere At e)
    (hc : c ∈ children e) : Everywhere At c :=
  h.sub (Sub.child hc (Sub.refl c))

theorem everywhere_fresh {At : Expr α → Prop} (hAt : ∀ s, At s.fresh ↔ At s) (e : Expr α) :
    Everywhere At e.fresh ↔ Everywhere At e := by
  induction e using Expr.ind_children with
  | _ e ih =>
    rw [everywhere_iff, everywhere_iff (e := e), children_fresh, freshList_eq_map,
      List.forall_mem_map, hAt]
    exact and_congr_right fun _ => forall₂_congr ih

/-- filler for operand positions that do not exist (never reached) -/
def rebuildJunk : Expr α := mkVar ""

/-- a fresh node of the class (and exponent / base) of the first argument around the given operands -/
def rebuildNode : Expr α → List (Expr α) → Expr α
  | .const _ v, _ => mkConst v
  | .var _ x, _ => mkVar x
  | .add _ _, cs => mkAdd cs
  | .mul _ _, cs => mkMul cs
  | .minus _ _ _, cs => mkMinus (cs.getD 0 rebuildJunk) (cs.getD 1 rebuildJunk)
  | .div _ _ _, cs => mkDiv (cs.getD 0 rebuildJunk) (cs.getD 1 rebuildJunk)
  | .pow _ _ _, cs => mkPow (cs.getD 0 rebuildJunk) (cs.getD 1 rebuildJunk)
  | .neg _ _, cs => mkNeg (cs.getD 0 rebuildJunk)
  | .recip _ _, cs => mkRecip (cs.getD 0 rebuildJunk)
  | .npow _ _ n, cs => mkNPow (cs.getD 0 rebuildJunk) n
  | .nroot _ _ n, cs => mkNRoot (cs.getD 0 rebuildJunk) n
  | .exp _ _ b, cs => mkExp (cs.getD 0 rebuildJunk) b
  | .log _ _ b, cs => mkLog (cs.getD 0 rebuildJunk) b
  | .cos _ _, cs => mkCos (cs.getD 0 rebuildJunk)
  | .sin _ _, cs => mkSin (cs.getD 0 rebuildJunk)

theorem flags_rebuildNode (e : Expr α) (cs : List (Expr α)) : (rebuildNode e cs).flags = {} := by
  cases e <;> rfl

theorem children_rebuildNode (e : Expr α) (cs : List (Expr α))
    (h : cs.length = (children e).length) : children (rebuildNode e cs) = cs := by
  cases e <;> simp only [children, List.length_nil, List.length_cons] at h
  case const => simpa [rebuildNode, children] using (List.length_eq_zero_iff.mp h).symm
  case var => simpa [rebuildNode, children] using (List.length_eq_zero_iff.mp h).symm
  case add => rfl
  case mul => rfl
  case minus | div | pow =>
    rcases cs with _ | ⟨a, _ | ⟨b, _ | ⟨c, cs⟩⟩⟩ <;> simp at h
    simp [rebuildNode, children]
  all_goals
    rcases cs with _ | ⟨a, _ | ⟨b, cs⟩⟩ <;> simp at h
    simp [rebuildNode, children]

theorem everywhere_rebuildNode {At : Expr α → Prop} (e : Expr α) (cs : List (Expr α))
    (h : cs.length = (children e).length) :
    Everywhere At (rebuildNode e cs) ↔ At (rebuildNode e cs) ∧ ∀ c ∈ cs, Everywhere At c := by
  rw [everywhere_iff, children_rebuildNode e cs h]

def stepKids (N : Num α) (e : Expr α) : Option (Expr α × StepEvent) :=
  (stepFirstUnreduced N (children e)).map fun p => (rebuildNode e p.1, p.2)

/-- `_take_reduction_step` of every class is the shared body around the step inside the operands -/
theorem stepF_eq (N : Num α) (e : Expr α) : stepF N e = stepNode N e (fun _ => stepKids N e) := by
  have eta : ∀ f : Flags, f.red = true → ({ f with red := true } : Flags) = f := by
    intro f h; cases f; simp only at h; subst h; rfl
  have leaf : ∀ (e : Expr α) (g : Flags), children e = [] → foldAttempt N e = none →
      e.flags = g → stepTop N e = (e.setFlags { g with red := true }, .flag) →
      (g.red = true → e.setFlags { g with red := true } = e) →
      (e.setFlags { g with red := true }, if g.red then StepEvent.already else .flag) =
        stepNode N e (fun _ => stepKids N e) := by
    intro e g hc hfa hg htop hset
    unfold stepNode stepKids
    rw [hc, hfa, isRed, hg]
    cases hr : g.red
    · simp [stepFirstUnreduced, htop]
    · simp [hset hr]
  have unary : ∀ (e u : Expr α) (mk : Expr α → Expr α), children e = [u] →
      (∀ c, rebuildNode e [c] = mk c) →
      (if !u.isRed then let (u', ev) := stepF N u; some (mk u', ev) else none) = stepKids N e := by
    intro e u mk hc hr
    unfold stepKids
    rw [hc]
    simp only [stepFirstUnreduced]
    split <;> simp [hr]
  have binary : ∀ (e l r : Expr α) (mk : Expr α → Expr α → Expr α), children e = [l, r] →
      (∀ a b, rebuildNode e [a, b] = mk a b) →
      (if !l.isRed then let (l', ev) := stepF N l; some (mk l' r, ev)
        else if !r.isRed then let (r', ev) := stepF N r; some (mk l r', ev) else none) =
        stepKids N e := by
    intro e l r mk hc hr
    unfold stepKids
    rw [hc]
    simp only [stepFirstUnreduced]
    split
    · simp [hr]
    · split <;> simp [hr]
  cases e <;> rw [stepF]
  case const f v =>
    exact leaf (.const f v) f rfl (by simp [foldAttempt, isConstNode, vars, varsAux]) rfl rfl
      (fun h => by rw [setFlags, eta f h])
  case var f x =>
    exact leaf (.var f x) f rfl (by simp [foldAttempt, vars, varsAux]) rfl rfl
      (fun h => by rw [setFlags, eta f h])
  case add | mul => rfl
  case minus f l r => unfold stepNode; rw [binary (.minus f l r) l r mkMinus rfl (fun _ _ => rfl)]
  case div f l r => unfold stepNode; rw [binary (.div f l r) l r mkDiv rfl (fun _ _ => rfl)]
  case pow f l r => unfold stepNode; rw [binary (.pow f l r) l r mkPow rfl (fun _ _ => rfl)]
  case neg f u => unfold stepNode; rw [unary (.neg f u) u mkNeg rfl (fun _ => rfl)]
  case recip f u => unfold stepNode; rw [unary (.recip f u) u mkRecip rfl (fun _ => rfl)]
  case npow f u n => unfold stepNode; rw [unary (.npow f u n) u (mkNPow · n) rfl (fun _ => rfl)]
  case nroot f u n => unfold stepNode; rw [unary (.nroot f u n) u (mkNRoot · n) rfl (fun _ => rfl)]
  case exp f u b => unfold stepNode; rw [unary (.exp f u b) u (mkExp · b) rfl (fun _ => rfl)]
  case log f u b => unfold stepNode; rw [unary (.log f u b) u (mkLog · b) rfl (fun _ => rfl)]
  case cos f u => unfold stepNode; rw [unary (.cos f u) u mkCos rfl (fun _ => rfl)]
  case sin f u => unfold stepNode; rw [unary (.sin f u) u mkSin rfl (fun _ => rfl)]

theorem stepF_of_isRed (N : Num α) (e : Expr α) (h : e.isRed = true) :
    stepF N e = (e, .already) := by
  rw [stepF_eq, stepNode, if_pos h]

theorem foldAttempt_eq_inl_iff {N : Num α} {e : Expr α} {v : α} :
    foldAttempt N e = some (.inl v) ↔
      e.vars = [] ∧ isConstNode e = false ∧ e.flags.failed = false ∧ evalG N [] e = .ok v := by
  rw [← List.isEmpty_iff]
  unfold foldAttempt
  cases e.vars.isEmpty <;> cases isConstNode e <;> cases e.flags.failed <;> simp
  split <;> simp [*]

theorem stepFirstUnreduced_eq_some {N : Num α} {as : List (Expr α)}
    {p : List (Expr α) × StepEvent} : stepFirstUnreduced N as = some p ↔
      ∃ pre c post, as = pre ++ c :: post ∧ (∀ a ∈ pre, a.isRed = true) ∧ c.isRed = false ∧
        p = (pre ++ (stepF N c).1 :: post, (stepF N c).2) := by
  constructor
  · intro h
    induction as generalizing p with
    | nil => cases h
    | cons e es ih =>
      rw [stepFirstUnreduced] at h
      cases he : e.isRed
      · rw [he] at h
        exact ⟨[], e, es, rfl, nofun, he, (Option.some.inj h).symm⟩
      · rw [he] at h
        obtain ⟨q, hq, rfl⟩ := Option.map_eq_some_iff.mp h
        obtain ⟨pre, c, post, rfl, hpre, hc, rfl⟩ := ih hq
        exact ⟨e :: pre, c, post, rfl, List.forall_mem_cons.mpr ⟨he, hpre⟩, hc, rfl⟩
  · rintro ⟨pre, c, post, rfl, hpre, hc, rfl⟩
    induction pre with
    | nil => simp only [List.nil_append, stepFirstUnreduced, hc, Bool.not_false, if_true]
    | cons a pre ih =>
      rw [List.forall_mem_cons] at hpre
      simp only [List.cons_append, stepFirstUnreduced, hpre.1, Bool.not_true, Bool.false_eq_true,
        if_false, ih hpre.2, Option.map_some]

theorem stepFirstUnreduced_eq_none {N : Num α} {as : List (Expr α)} :
    stepFirstUnreduced N as = none ↔ ∀ a ∈ as, a.isRed = true := by
  induction as with
  | nil => simp [stepFirstUnreduced]
  | cons e es ih =>
    rw [stepFirstUnreduced]
    cases he : e.isRed <;> simp [he, ih]

theorem stepNode_cases (N : Num α) (self : Expr α) (sc : Unit → Option (Expr α × StepEvent))
    (hr : self.isRed = false) :
    (∃ v, foldAttempt N self = some (.inl v) ∧ stepNode N self sc = (mkConst v, .fold)) ∨
      ((∀ v, foldAttempt N self ≠ some (.inl v)) ∧
        ∃ self', (self' = self ∨ (self' = self.markFailed ∧ foldAttempt N self = some (.inr ()))) ∧
          stepNode N self sc = (sc ()).getD (stepTop N self')) := by
  unfold stepNode
  simp only [hr, Bool.false_eq_true, if_false]
  cases hfa : foldAttempt N self with
  | none => right; exact ⟨by simp, self, Or.inl rfl, by cases sc () <;> rfl⟩
  | some x =>
    cases x with
    | inl v => left; exact ⟨v, rfl, rfl⟩
    | inr u =>
      right; cases u
      exact ⟨by simp, self.markFailed, Or.inr ⟨rfl, rfl⟩, by cases sc () <;> rfl⟩

/-- `StepShape N e e' ev`: one call of `_take_reduction_step` on `e` may
return `e'` with event `ev`.  `self'` in `rule`/`flag` is the node after constant folding was tried:
the node itself, or the node with `_evaluation_failed` set. -/
inductive StepShape (N : Num α) : Expr α → Expr α → StepEvent → Prop
  | already {e : Expr α} : e.isRed = true → StepShape N e e .already
  | fold {e : Expr α} {v : α} : e.isRed = false → foldAttempt N e = some (.inl v) →
      StepShape N e (mkConst v) .fold
  | child {e c : Expr α} {pre post : List (Expr α)} {c' : Expr α} {ev : StepEvent} :
      e.isRed = false → (∀ v, foldAttempt N e ≠ some (.inl v)) → children e = pre ++ c :: post →
      (∀ a ∈ pre, a.isRed = true) → c.isRed = false → StepShape N c c' ev →
      StepShape N e (rebuildNode e (pre ++ c' :: post)) ev
  | rule {e self' e' : Expr α} {r : RuleId} : e.isRed = false →
      (∀ v, foldAttempt N e ≠ some (.inl v)) → (∀ c ∈ children e, c.isRed = true) →
      (self' = e ∨ (self' = e.markFailed ∧ foldAttempt N e = some (.inr ()))) →
      firstRule N self' (reducers self') = some (r, e') → StepShape N e e' (.rule r)
  | flag {e self' : Expr α} : e.isRed = false →
      (∀ v, foldAttempt N e ≠ some (.inl v)) → (∀ c ∈ children e, c.isRed = true) →
      (self' = e ∨ (self' = e.markFailed ∧ foldAttempt N e = some (.inr ()))) →
      firstRule N self' (reducers self') = none → StepShape N e self'.markRed .flag

theorem stepF_shape (N : Num α) (e : Expr α) : StepShape N e (stepF N e).1 (stepF N e).2 := by
  induction e using Expr.ind_children with
  | _ e ih =>
    rw [stepF_eq]
    cases hr : e.isRed
    · rcases stepNode_cases N e (fun _ => stepKids N e) hr with ⟨v, hfa, hst⟩ | ⟨hnf, self', hself, hst⟩
      · rw [hst]; exact .fold hr hfa
      · rw [hst]
        unfold stepKids
        cases hk : stepFirstUnreduced N (children e) with
        | some p =>
          obtain ⟨pre, c, post, hch, hpre, hc, rfl⟩ := stepFirstUnreduced_eq_some.mp hk
          exact .child hr hnf hch hpre hc (ih c (hch ▸ List.mem_append_right _ List.mem_cons_self))
        | none =>
          have hkids := stepFirstUnreduced_eq_none.mp hk
          simp only [Option.map_none, Option.getD_none, stepTop]
          cases hfr : firstRule N self' (reducers self') with
          | none => exact .flag hr hnf hkids hself hfr
          | some q =>
            obtain ⟨r, e'⟩ := q
            exact .rule hr hnf hkids hself hfr
    · unfold stepNode; simp only [hr, if_true]; exact .already hr

/-- the expression after one call of `_take_reduction_step` -/
def stepE (N : Num α) (e : Expr α) : Expr α := (stepF N e).1

theorem mapM?_one {β γ : Type} (f : β → Option γ) (b : β) : mapM? f [b] = (f b).map ([·]) := by
  simp only [mapM?]; cases f b <;> rfl

theorem mapM?_two {β γ : Type} (f : β → Option γ) (b₁ b₂ : β) :
    mapM? f [b₁, b₂] = match f b₁, f b₂ with
      | some c₁, some c₂ => some [c₁, c₂]
      | _, _ => none := by
  simp only [mapM?]; cases f b₁ <;> cases f b₂ <;> rfl

theorem mapM?_cons_eq_some {β γ : Type} {f : β → Option γ} {b : β} {bs : List β} {t : List γ} :
    mapM? f (b :: bs) = some t ↔ ∃ c cs, f b = some c ∧ mapM? f bs = some cs ∧ t = c :: cs := by
  rw [mapM?]
  cases f b <;> cases mapM? f bs <;> simp [eq_comm]

theorem mapM?_some {β γ : Type} {f : β → Option γ} {bs : List β} {cs : List γ}
    (h : mapM? f bs = some cs) : cs.length = bs.length ∧ ∀ c ∈ cs, ∃ b ∈ bs, f b = some c := by
  induction bs generalizing cs with
  | nil =>
    obtain rfl := Option.some.inj h
    exact ⟨rfl, fun _ hc => nomatch hc⟩
  | cons b bs ih =>
    obtain ⟨c, cs', hc, hcs, rfl⟩ := mapM?_cons_eq_some.mp h
    obtain ⟨hl, hm⟩ := ih hcs
    refine ⟨congrArg (· + 1) hl,
      List.forall_mem_cons.mpr ⟨⟨b, List.mem_cons_self, hc⟩, fun x hx => ?_⟩⟩
    obtain ⟨b', hb', hfb⟩ := hm x hx
    exact ⟨b', List.mem_cons_of_mem _ hb', hfb⟩

theorem exists_mapM?_eq_some {β γ : Type} {f : β → Option γ} {bs : List β}
    (h : ∀ b ∈ bs, ∃ c, f b = some c) : ∃ cs, mapM? f bs = some cs := by
  induction bs with
  | nil => exact ⟨[], rfl⟩
  | cons b bs ih =>
    obtain ⟨c, hc⟩ := h b List.mem_cons_self
    obtain ⟨cs, hcs⟩ := ih fun b' hb' => h b' (List.mem_cons_of_mem _ hb')
    exact ⟨c :: cs, mapM?_cons_eq_some.mpr ⟨c, cs, hc, hcs, rfl⟩⟩

theorem forall_mem_filter_filterMap {β γ : Type} {P : β → Prop} {Q : γ → Prop}
    {sel : β → Option γ} {as : List β} (h : ∀ a ∈ as, P a)
    (hsel : ∀ a u, sel a = some u → P a → Q u) :
    (∀ a ∈ as.filter fun t => (sel t).isNone, P a) ∧ ∀ u ∈ as.filterMap sel, Q u :=
  ⟨fun a ha => h a (List.mem_filter.mp ha).1, fun u hu => by
    obtain ⟨a, ha, hau⟩ := List.mem_filterMap.mp hu
    exact hsel a u hau (h a ha)⟩

theorem mem_children_of_asNeg {a u : Expr α} (h : asNeg a = some u) : u ∈ children a := by
  obtain ⟨_, rfl⟩ := asNeg_some_iff.mp h
  exact List.mem_cons_self

theorem mem_children_of_asRecip {a u : Expr α} (h : asRecip a = some u) : u ∈ children a := by
  obtain ⟨_, rfl⟩ := asRecip_some_iff.mp h
  exact List.mem_cons_self

/-- the four-way output of `Add._normalize_fully_reduced`: positive terms `t1`, negated terms `t2` -/
def addOut (N : Num α) (t1 t2 : List (Expr α)) : Expr α :=
  if t1.length ≥ 1 && t2.length ≥ 1 then mkMinus (simplifiedAdd N t1) (simplifiedAdd N t2)
  else if t1.length ≥ 1 then simplifiedAdd N t1
  else if t2.length ≥ 1 then mkNeg (simplifiedAdd N t2)
  else mkConst N.zero

/-- the four-way output of `Multiply._normalize_fully_reduced`: factors `t1`, reciprocal factors `t2` -/
def mulOut (N : Num α) (t1 t2 : List (Expr α)) : Expr α :=
  if t1.length ≥ 1 && t2.length ≥ 1 then mkDiv (simplifiedMul N t1) (simplifiedMul N t2)
  else if t1.length ≥ 1 then simplifiedMul N t1
  else if t2.length ≥ 1 then mkRecip (simplifiedMul N t2)
  else mkConst N.one

theorem normReducedF_add (N : Num α) (bound fuel : Nat) (f : Flags) (as : List (Expr α)) :
    normReducedF N bound (fuel + 1) (.add f as) =
      match mapM? (normalizeF N bound fuel) (as.filter fun t => (asNeg t).isNone),
        mapM? (normalizeF N bound fuel) (as.filterMap asNeg) with
      | some t1, some t2 =>
        some (addOut N (t1.map (·.1)) (t2.map (·.1)), t1.any (·.2) || t2.any (·.2))
      | _, _ => none := by
  rw [normReducedF]; rfl

theorem normReducedF_mul (N : Num α) (bound fuel : Nat) (f : Flags) (as : List (Expr α)) :
    normReducedF N bound (fuel + 1) (.mul f as) =
      match mapM? (normalizeF N bound fuel) (as.filter fun t => (asRecip t).isNone),
        mapM? (normalizeF N bound fuel) (as.filterMap asRecip) with
      | some t1, some t2 =>
        some (mulOut N (t1.map (·.1)) (t2.map (·.1)), t1.any (·.2) || t2.any (·.2))
      | _, _ => none := by
  rw [normReducedF]; rfl

/-- is the node an `Add` or a `Multiply` (the two classes the normal-form pass restructures) -/
def isNaryNode : Expr α → Bool | .add _ _ | .mul _ _ => true | _ => false

theorem normReducedF_node_eq (N : Num α) (bound fuel : Nat) (e : Expr α)
    (h : isNaryNode e = false) : normReducedF N bound (fuel + 1) e =
      (mapM? (normReducedF N bound fuel) (children e)).map fun cs =>
        (rebuildNode e (cs.map (·.1)), cs.any (·.2)) := by
  cases e <;> simp only [isNaryNode, reduceCtorEq] at h <;> rw [normReducedF] <;>
    simp only [children, mapM?_one, mapM?_two, mapM?]
  case const | var => rfl
  case minus f l r | div f l r | pow f l r =>
    cases normReducedF N bound fuel l with
    | none => rfl
    | some a =>
      cases normReducedF N bound fuel r with
      | none => rfl
      | some b =>
        simp only [Option.map_some, rebuildNode, List.map_cons, List.map_nil, List.getD_cons_zero,
          List.getD_cons_succ, List.any_cons, List.any_nil, Bool.or_false]
  case neg f u | recip f u | cos f u | sin f u | npow f u _ | nroot f u _ | exp f u _ | log f u _ =>
    cases normReducedF N bound fuel u with
    | none => rfl
    | some a =>
      simp only [Option.map_some, rebuildNode, List.map_cons, List.map_nil, List.getD_cons_zero,
        List.any_cons, List.any_nil, Bool.or_false]

theorem normReducedF_node (N : Num α) (bound fuel : Nat) (e : Expr α) (h : isNaryNode e = false)
    {e' : Expr α} {w : Bool} : normReducedF N bound (fuel + 1) e = some (e', w) ↔
      ∃ cs, mapM? (normReducedF N bound fuel) (children e) = some cs ∧
        e' = rebuildNode e (cs.map (·.1)) ∧ w = cs.any (·.2) := by
  rw [normReducedF_node_eq N bound fuel e h, Option.map_eq_some_iff]
  simp only [Prod.mk.injEq, eq_comm]

/-- What `_take_reduction_step`, `_fully_reduce` and `_normalize` need of a predicate `P` in order to
preserve it: it ignores flags, passes to operands, survives rebuilding a node around operands that
satisfy it, holds of the nodes the normal-form pass builds, and every rule preserves it. -/
structure DriverClosed (N : Num α) (P : Expr α → Prop) : Prop where
  setFlags : ∀ {e : Expr α} (g : Flags), P e → P (e.setFlags g)
  child : ∀ {e c : Expr α}, P e → c ∈ children e → P c
  rebuild : ∀ {e : Expr α} {cs : List (Expr α)}, P e → cs.length = (children e).length →
    (∀ c ∈ cs, P c) → P (rebuildNode e cs)
  const : ∀ v : α, P (mkConst v)
  add : ∀ {ts : List (Expr α)}, (∀ t ∈ ts, P t) → P (mkAdd ts)
  mul : ∀ {ts : List (Expr α)}, (∀ t ∈ ts, P t) → P (mkMul ts)
  minus : ∀ {a b : Expr α}, P a → P b → P (mkMinus a b)
  div : ∀ {a b : Expr α}, P a → P b → P (mkDiv a b)
  neg : ∀ {a : Expr α}, P a → P (mkNeg a)
  recip : ∀ {a : Expr α}, P a → P (mkRecip a)
  rule : ∀ {r : RuleId} {e e' : Expr α}, r.apply N e = some e' → P e → P e'

namespace DriverClosed
variable {N : Num α} {P : Expr α → Prop} (hP : DriverClosed N P)
include hP

theorem stepF {e : Expr α} (h : P e) : P (stepF N e).1 := by
  have hs := stepF_shape N e
  generalize (Smooth.stepF N e).1 = e' at hs
  generalize (Smooth.stepF N e).2 = ev at hs
  induction hs with
  | already => exact h
  | fold => exact hP.const _
  | @child e c pre post c' _ _ _ hch _ _ _ ih =>
    have hc : c ∈ children e := hch ▸ List.mem_append_right _ List.mem_cons_self
    refine hP.rebuild h (by simp [hch]) fun x hx => ?_
    rcases List.mem_append.mp hx with hx | hx
    · exact hP.child h (hch ▸ List.mem_append_left _ hx)
    · rcases List.mem_cons.mp hx with rfl | hx
      · exact ih (hP.child h hc)
      · exact hP.child h (hch ▸ List.mem_append_right _ (List.mem_cons_of_mem _ hx))
  | rule _ _ _ hself hfr =>
    have hr := (firstRule_eq_some hfr).1
    rcases hself with rfl | ⟨rfl, _⟩
    · exact hP.rule hr h
    · exact hP.rule hr (hP.setFlags _ h)
  | flag _ _ _ hself _ =>
    rcases hself with rfl | ⟨rfl, _⟩
    · exact hP.setFlags _ h
    · exact hP.setFlags _ (hP.setFlags _ h)

theorem stepFirstUnreduced {as : List (Expr α)} {p : List (Expr α) × StepEvent}
    (h : stepFirstUnreduced N as = some p) (has : ∀ a ∈ as, P a) : ∀ a ∈ p.1, P a := by
  obtain ⟨pre, c, post, rfl, -, -, rfl⟩ := stepFirstUnreduced_eq_some.mp h
  simp only [List.forall_mem_append, List.forall_mem_cons] at has ⊢
  exact ⟨has.1, hP.stepF has.2.1, has.2.2⟩

/-- for every budget, exhaustion included: then only a flag is set -/
theorem fullyReduceLoop (fuel : Nat) {e : Expr α} (k : Nat) (tr : List StepEvent) (h : P e) :
    P (fullyReduceLoop N fuel e k tr).expr := by
  induction fuel generalizing e k tr with
  | zero => exact hP.setFlags _ h
  | succ fuel ih =>
    unfold Smooth.fullyReduceLoop
    split
    · exact h
    · exact ih _ _ (hP.stepF h)

theorem fullyReduceWith (bound : Nat) {e : Expr α} (h : P e) : P (fullyReduceWith N bound e).expr :=
  hP.fullyReduceLoop bound 0 [] h

theorem simplifiedAdd {ts : List (Expr α)} (h : ∀ t ∈ ts, P t) : P (simplifiedAdd N ts) := by
  match ts, h with
  | [], _ => exact hP.const _
  | [t], h => exact h t List.mem_cons_self
  | _ :: _ :: _, h => exact hP.add h

theorem simplifiedMul {ts : List (Expr α)} (h : ∀ t ∈ ts, P t) : P (simplifiedMul N ts) := by
  match ts, h with
  | [], _ => exact hP.const _
  | [t], h => exact h t List.mem_cons_self
  | _ :: _ :: _, h => exact hP.mul h

theorem addOut {t1 t2 : List (Expr α)} (h1 : ∀ t ∈ t1, P t) (h2 : ∀ t ∈ t2, P t) :
    P (addOut N t1 t2) := by
  unfold Smooth.addOut
  split
  · exact hP.minus (hP.simplifiedAdd h1) (hP.simplifiedAdd h2)
  · split
    · exact hP.simplifiedAdd h1
    · split
      · exact hP.neg (hP.simplifiedAdd h2)
      · exact hP.const _

theorem mulOut {t1 t2 : List (Expr α)} (h1 : ∀ t ∈ t1, P t) (h2 : ∀ t ∈ t2, P t) :
    P (mulOut N t1 t2) := by
  unfold Smooth.mulOut
  split
  · exact hP.div (hP.simplifiedMul h1) (hP.simplifiedMul h2)
  · split
    · exact hP.simplifiedMul h1
    · split
      · exact hP.recip (hP.simplifiedMul h2)
      · exact hP.const _

theorem norm (bound fuel : Nat) :
    (∀ e e' w, P e → normalizeF N bound fuel e = some (e', w) → P e') ∧
    (∀ e e' w, P e → normReducedF N bound fuel e = some (e', w) → P e') := by
  induction fuel with
  | zero =>
    exact ⟨fun _ _ _ _ h => by simp [Smooth.normalizeF] at h,
      fun _ _ _ _ h => by simp [Smooth.normReducedF] at h⟩
  | succ fuel ih =>
    have hlist : ∀ {g : Expr α → Option (Expr α × Bool)} {bs : List (Expr α)}
        {cs : List (Expr α × Bool)}, (∀ b e' w, P b → g b = some (e', w) → P e') →
        (∀ b ∈ bs, P b) → mapM? g bs = some cs → ∀ t ∈ cs.map (·.1), P t := by
      intro g bs cs hg hbs hm t ht
      obtain ⟨c, hc, rfl⟩ := List.mem_map.mp ht
      obtain ⟨b, hb, hgb⟩ := (mapM?_some hm).2 c hc
      exact hg b c.1 c.2 (hbs b hb) hgb
    refine ⟨fun e e' w h hn => ?_, fun e e' w h hn => ?_⟩
    · simp only [Smooth.normalizeF] at hn
      split at hn
      · next e'' w'' hr =>
        obtain ⟨rfl, _⟩ := Prod.mk.inj (Option.some.inj hn)
        exact ih.2 _ _ _ (hP.fullyReduceWith bound h) hr
      · cases hn
    · cases hnary : isNaryNode e
      · obtain ⟨cs, hcs, rfl, _⟩ := (normReducedF_node N bound fuel e hnary).mp hn
        exact hP.rebuild h (by simp [(mapM?_some hcs).1])
          (hlist ih.2 (fun c hc => hP.child h hc) hcs)
      · cases e <;> simp only [isNaryNode, reduceCtorEq] at hnary
        case add f as =>
          rw [normReducedF_add] at hn
          split at hn
          · next t1 t2 ht1 ht2 =>
            obtain ⟨rfl, _⟩ := Prod.mk.inj (Option.some.inj hn)
            obtain ⟨h1, h2⟩ := forall_mem_filter_filterMap (sel := asNeg)
              (fun a ha => hP.child h ha) fun a u hau ha => hP.child ha (mem_children_of_asNeg hau)
            exact hP.addOut (hlist ih.1 h1 ht1) (hlist ih.1 h2 ht2)
          · cases hn
        case mul f as =>
          rw [normReducedF_mul] at hn
          split at hn
          · next t1 t2 ht1 ht2 =>
            obtain ⟨rfl, _⟩ := Prod.mk.inj (Option.some.inj hn)
            obtain ⟨h1, h2⟩ := forall_mem_filter_filterMap (sel := asRecip)
              (fun a ha => hP.child h ha) fun a u hau ha => hP.child ha (mem_children_of_asRecip hau)
            exact hP.mulOut (hlist ih.1 h1 ht1) (hlist ih.1 h2 ht2)
          · cases hn

theorem normalizeF (bound fuel : Nat) {e e' : Expr α} {w : Bool} (h : P e)
    (hn : normalizeF N bound fuel e = some (e', w)) : P e' :=
  (hP.norm bound fuel).1 e e' w h hn

theorem normReducedF (bound fuel : Nat) {e e' : Expr α} {w : Bool} (h : P e)
    (hn : normReducedF N bound fuel e = some (e', w)) : P e' :=
  (hP.norm bound fuel).2 e e' w h hn

end DriverClosed

end Smooth
