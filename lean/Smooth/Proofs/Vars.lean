/-
Proofs/Vars — the model's variable list (`Expr.vars`, first-occurrence order, no duplicates) contains
exactly the variables that occur; a point supplies an expression iff it has every listed variable;
the denotation reads only the variables that occur.
-/
import Smooth.Real.Spec
import Smooth.Proofs.Base

namespace Smooth
open Expr
variable {α : Type}

theorem occursList_iff (x : String) (es : List (Expr α)) :
    OccursList x es ↔ ∃ e ∈ es, Occurs x e := by
  induction es with
  | nil => simp [OccursList]
  | cons e es ih => simp [OccursList, ih]

theorem suppList_iff (p : Point α) (es : List (Expr α)) :
    SuppList p es ↔ ∀ e ∈ es, Supp p e := by
  induction es with
  | nil => simp [SuppList]
  | cons e es ih => rw [SuppList, ih, List.forall_mem_cons]

theorem wfList_iff (es : List (Expr ℝ)) : WFList es ↔ ∀ e ∈ es, WF e := by
  induction es with
  | nil => simp [WFList]
  | cons e es ih => rw [WFList, ih, List.forall_mem_cons]

theorem domList_iff (ρ : String → ℝ) (es : List (Expr ℝ)) : DomList ρ es ↔ ∀ e ∈ es, Dom ρ e := by
  induction es with
  | nil => simp [DomList]
  | cons e es ih => rw [DomList, ih, List.forall_mem_cons]

theorem mem_varsAux (x : String) (e : Expr α) :
    ∀ acc : List String, x ∈ varsAux e acc ↔ x ∈ acc ∨ Occurs x e := by
  induction e using Expr.ind with
  | const f v => intro acc; simp only [varsAux, Occurs, or_false]
  | var f y =>
    intro acc
    simp only [varsAux, Occurs]
    split
    · next h => exact ⟨Or.inl, fun h' => h'.elim id fun hy => hy ▸ List.contains_iff_mem.mp h⟩
    · simp only [List.mem_append, List.mem_singleton, eq_comm]
  | add f as ih | mul f as ih =>
    intro acc
    simp only [varsAux, Occurs]
    induction as generalizing acc with
    | nil => simp only [varsAuxList, OccursList, or_false]
    | cons e es ihes =>
      simp only [varsAuxList, OccursList, ihes fun a ha => ih a (List.mem_cons_of_mem _ ha),
        ih e List.mem_cons_self, or_assoc]
  | minus f l r ihl ihr | div f l r ihl ihr | pow f l r ihl ihr =>
    intro acc; simp only [varsAux, Occurs, ihr, ihl, or_assoc]
  | neg f u ih | recip f u ih | npow f u n ih | nroot f u n ih | exp f u b ih | log f u b ih
  | cos f u ih | sin f u ih => intro acc; simpa only [varsAux, Occurs] using ih acc

theorem mem_varsAuxList (x : String) : ∀ (es : List (Expr α)) (acc : List String),
    x ∈ varsAuxList es acc ↔ x ∈ acc ∨ OccursList x es :=
  fun es => mem_varsAux x (.add {} es)

theorem mem_vars (x : String) (e : Expr α) : x ∈ e.vars ↔ Occurs x e := by
  simp only [Expr.vars, mem_varsAux, List.not_mem_nil, false_or]

theorem nodup_varsAux (e : Expr α) :
    ∀ acc : List String, acc.Nodup → (varsAux e acc).Nodup := by
  induction e using Expr.ind with
  | const f v => intro acc h; simpa only [varsAux] using h
  | var f y =>
    intro acc h
    simp only [varsAux]
    split
    · exact h
    · next hc =>
      refine List.Nodup.append h (List.nodup_singleton y) fun a ha hb => ?_
      rw [List.mem_singleton.mp hb] at ha
      exact hc (List.contains_iff_mem.mpr ha)
  | add f as ih | mul f as ih =>
    intro acc h
    simp only [varsAux]
    induction as generalizing acc with
    | nil => simpa only [varsAuxList] using h
    | cons e es ihes =>
      simp only [varsAuxList]
      exact ihes (fun a ha => ih a (List.mem_cons_of_mem _ ha)) _ (ih e List.mem_cons_self acc h)
  | minus f l r ihl ihr | div f l r ihl ihr | pow f l r ihl ihr =>
    intro acc h; simpa only [varsAux] using ihr _ (ihl acc h)
  | neg f u ih | recip f u ih | npow f u n ih | nroot f u n ih | exp f u b ih | log f u b ih
  | cos f u ih | sin f u ih => intro acc h; simpa only [varsAux] using ih acc h

theorem nodup_varsAuxList : ∀ (es : List (Expr α)) (acc : List String), acc.Nodup →
    (varsAuxList es acc).Nodup :=
  fun es => nodup_varsAux (.add {} es)

theorem nodup_vars (e : Expr α) : e.vars.Nodup := nodup_varsAux e [] List.nodup_nil

theorem supp_iff_occurs (p : Point α) (e : Expr α) :
    Supp p e ↔ ∀ x, Occurs x e → (p.get? x).isSome := by
  induction e using Expr.ind with
  | const f v => simp only [Supp, Occurs, false_imp_iff, implies_true]
  | var f y => simp only [Supp, Occurs, forall_eq']
  | add f as ih | mul f as ih =>
    simp only [Supp, Occurs]
    induction as with
    | nil => simp only [SuppList, OccursList, false_imp_iff, implies_true]
    | cons e es ihes =>
      simp only [SuppList, OccursList, ih e List.mem_cons_self,
        ihes fun a ha => ih a (List.mem_cons_of_mem _ ha), or_imp, forall_and]
  | minus f l r ihl ihr | div f l r ihl ihr | pow f l r ihl ihr =>
    simp only [Supp, Occurs, ihl, ihr, or_imp, forall_and]
  | neg f u ih | recip f u ih | npow f u n ih | nroot f u n ih | exp f u b ih | log f u b ih
  | cos f u ih | sin f u ih => simpa only [Supp, Occurs] using ih

theorem suppList_iff_occurs (p : Point α) : ∀ es : List (Expr α),
    SuppList p es ↔ ∀ x, OccursList x es → (p.get? x).isSome :=
  fun es => supp_iff_occurs p (.add {} es)

theorem supp_iff_vars (p : Point α) (e : Expr α) :
    Supp p e ↔ ∀ x ∈ e.vars, (p.get? x).isSome := by
  simp only [supp_iff_occurs, mem_vars]

/-- `get_the_single_variable_name` accepts exactly the expressions with at most one variable -/
theorem singleVarName_ok_iff (e : Expr α) : (∃ x, singleVarName e = .ok x) ↔ e.vars.length ≤ 1 := by
  unfold singleVarName
  match e.vars with
  | [] => simp [rmonad]
  | [x] => simp [rmonad]
  | _ :: _ :: _ => simp [rmonad]

theorem vars_length_le_one_iff (e : Expr α) :
    e.vars.length ≤ 1 ↔ ∀ x y, Occurs x e → Occurs y e → x = y := by
  simp only [← mem_vars]
  match e.vars, nodup_vars e with
  | [], _ => simp
  | [z], _ => simp
  | a :: b :: rest, hnd =>
    refine iff_of_false (by simp) fun h => ?_
    rw [h a b List.mem_cons_self (List.mem_cons_of_mem _ List.mem_cons_self)] at hnd
    simp at hnd

theorem denList_eq_map (ρ : String → ℝ) (es : List (Expr ℝ)) : denList ρ es = es.map (den ρ) := by
  induction es with
  | nil => rfl
  | cons e es ih => simp only [denList, ih, List.map_cons]

theorem denList_congr_mem {ρ ρ' : String → ℝ} {es : List (Expr ℝ)}
    (h : ∀ e ∈ es, den ρ e = den ρ' e) : denList ρ es = denList ρ' es := by
  rw [denList_eq_map, denList_eq_map]
  exact List.map_congr_left h

theorem den_congr {ρ ρ' : String → ℝ} (e : Expr ℝ) (h : ∀ y, Occurs y e → ρ y = ρ' y) :
    den ρ e = den ρ' e := by
  induction e using Expr.ind with
  | const f v => rfl
  | var f y => exact h y rfl
  | add f as ih | mul f as ih =>
    simp only [den, denList_congr_mem fun a ha =>
      ih a ha fun y hy => h y ((occursList_iff y as).mpr ⟨a, ha, hy⟩)]
  | minus f l r ihl ihr | div f l r ihl ihr | pow f l r ihl ihr =>
    simp only [den, ihl fun y hy => h y (Or.inl hy), ihr fun y hy => h y (Or.inr hy)]
  | neg f u ih | recip f u ih | npow f u n ih | nroot f u n ih | exp f u b ih | log f u b ih
  | cos f u ih | sin f u ih => simp only [den, ih h]

theorem denList_congr {ρ ρ' : String → ℝ} : ∀ es : List (Expr ℝ),
    (∀ y, OccursList y es → ρ y = ρ' y) → denList ρ es = denList ρ' es :=
  fun es h => denList_congr_mem fun e he =>
    den_congr e fun y hy => h y ((occursList_iff y es).mpr ⟨e, he, hy⟩)

end Smooth
