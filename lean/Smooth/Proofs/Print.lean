/-
Proofs/Print — the printed form (`render`) is read back by `parseExpr` as the same tree with fresh
flags, for every expression, every continuation of the token stream and every sufficiently large
fuel; `render` is injective up to flags (even prefix-free).  Mathlib-free, generic in the numbers.
-/
import Smooth.Proofs.NodeView

namespace Smooth
variable {α : Type}
open Expr

/-! ### the number of nodes

General facts about `size` and `sizeList`; nothing here mentions printing. -/

theorem size_eq_children (e : Expr α) : size e = 1 + sizeList (children e) := by
  cases e <;> simp only [size, sizeList, children, Nat.add_assoc, Nat.add_zero]

theorem size_pos (e : Expr α) : 1 ≤ size e := by
  rw [size_eq_children]
  exact Nat.le_add_right ..

theorem size_le_sizeList {e : Expr α} : ∀ {es : List (Expr α)}, e ∈ es → size e ≤ sizeList es
  | a :: as, h => by
    rw [sizeList]
    rcases List.mem_cons.mp h with rfl | h
    · exact Nat.le_add_right ..
    · exact Nat.le_trans (size_le_sizeList h) (Nat.le_add_left ..)

theorem length_le_sizeList : ∀ es : List (Expr α), es.length ≤ sizeList es
  | [] => Nat.le_refl 0
  | a :: as => by
    rw [sizeList, List.length_cons, Nat.add_comm]
    exact Nat.add_le_add (size_pos a) (length_le_sizeList as)

/-! ### the printed form: one shape for all classes -/

/-- the name a class prints under -/
def Ctor.name : Ctor → String
  | .const => "Constant" | .var => "Variable" | .add => "Add" | .mul => "Multiply"
  | .minus => "Minus" | .div => "Divide" | .pow => "Power" | .neg => "Negation"
  | .recip => "Reciprocal" | .cos => "Cosine" | .sin => "Sine" | .npow => "NthPower"
  | .nroot => "NthRoot" | .exp => "Exponential" | .log => "Logarithm"

/-- what is printed after the operands: the parameter, if there is one, and the closing parenthesis -/
def Expr.tail : Expr α → List (Tok α)
  | .const _ v => [.num v, .rp]
  | .var _ x => [.str x, .rp]
  | .npow _ _ n | .nroot _ _ n => [.comma, .ident "n", .eqs, .nat n, .rp]
  | .exp _ _ b | .log _ _ b => [.comma, .ident "base", .eqs, .num b, .rp]
  | _ => [.rp]

/-- every class prints the same way: name, `(`, the operands separated by commas, the tail -/
theorem render_eq (e : Expr α) :
    render e = .ident e.ctor.name :: .lp :: (joinComma (renderList (children e)) ++ e.tail) := by
  cases e <;> rfl

theorem renderList_eq_map (es : List (Expr α)) : renderList es = es.map render := by
  induction es with
  | nil => rfl
  | cons e es ih => rw [renderList, ih, List.map_cons]

theorem Expr.tail_fresh (e : Expr α) : e.fresh.tail = e.tail := by cases e <;> rfl

theorem render_ne_rp (e : Expr α) (more rest : List (Tok α)) : render e ++ more ≠ Tok.rp :: rest := by
  rw [render_eq]
  exact fun h => nomatch h

theorem sum_length_le_length_joinComma :
    ∀ tss : List (List (Tok α)), (tss.map List.length).sum ≤ (joinComma tss).length
  | [] => Nat.le_refl 0
  | [x] => by simp [joinComma]
  | x :: y :: r => by
    have := sum_length_le_length_joinComma (y :: r)
    simp [joinComma] at this ⊢; omega

theorem sizeList_le_length_joinComma {es : List (Expr α)}
    (h : ∀ e ∈ es, size e ≤ (render e).length) :
    sizeList es ≤ (joinComma (renderList es)).length := by
  refine Nat.le_trans ?_ (sum_length_le_length_joinComma _)
  induction es with
  | nil => exact Nat.le_refl 0
  | cons a as ih =>
    rw [sizeList, renderList, List.map_cons, List.sum_cons]
    exact Nat.add_le_add (h a List.mem_cons_self) (ih fun k hk => h k (List.mem_cons_of_mem _ hk))

theorem size_le_length_render (e : Expr α) : size e ≤ (render e).length := by
  induction e using Expr.ind_children with
  | h e ih =>
    have := sizeList_le_length_joinComma ih
    rw [size_eq_children, render_eq, List.length_cons, List.length_cons, List.length_append]
    omega

/-- the argument reader of `Add(`/`Multiply(` -/
theorem args_render (sub : List (Tok α) → Option (Expr α × List (Tok α))) :
    ∀ (es : List (Expr α)) (e : Expr α) (m : Nat) (acc : List (Expr α)) (rest : List (Tok α)),
      (∀ x ∈ e :: es, ∀ r, sub (render x ++ r) = some (x.fresh, r)) →
      (e :: es).length ≤ m →
      parseExpr.args sub m (joinComma (renderList (e :: es)) ++ Tok.rp :: rest) acc
        = some (acc ++ freshList (e :: es), rest)
  | [], e, m, acc, rest, hsub, hm => by
    obtain ⟨m, rfl⟩ : ∃ m', m = m' + 1 := ⟨m - 1, by simp at hm; omega⟩
    have h := hsub e (by simp) (Tok.rp :: rest)
    rw [renderList, renderList, joinComma, parseExpr.args.eq_3 _ _ _ _ (fun r => render_ne_rp e _ r), h]
    simp [freshList]
  | e' :: es, e, m, acc, rest, hsub, hm => by
    obtain ⟨m, rfl⟩ : ∃ m', m = m' + 1 := ⟨m - 1, by simp at hm; omega⟩
    have h := hsub e (by simp)
      (Tok.comma :: (joinComma (renderList (e' :: es)) ++ Tok.rp :: rest))
    have ih := args_render sub es e' m (acc ++ [e.fresh]) rest
      (fun x hx => hsub x (List.mem_cons_of_mem _ hx)) (by simp at hm ⊢; omega)
    have hj : joinComma (renderList (e :: e' :: es)) ++ Tok.rp :: rest
        = render e ++ Tok.comma :: (joinComma (renderList (e' :: es)) ++ Tok.rp :: rest) := by
      simp [renderList, joinComma]
    rw [hj, parseExpr.args.eq_3 _ _ _ _ (fun r => render_ne_rp e _ r), h]
    simp only [ih]
    simp [freshList]

section
variable (N : Num α)

theorem exists_succ_of_size_le {e : Expr α} {k : Nat} (h : size e ≤ k) : ∃ k', k = k' + 1 :=
  ⟨k - 1, by have := size_pos e; omega⟩

theorem parse_render_of_size_le (e : Expr α) :
    ∀ (k : Nat) (rest : List (Tok α)), size e ≤ k →
      parseExpr N k (render e ++ rest) = some (e.fresh, rest) := by
  induction e using Expr.ind
  all_goals
    intro k rest hk
    obtain ⟨k, rfl⟩ := exists_succ_of_size_le hk
    simp only [size] at hk
  case const | var => rfl
  case add f as ih | mul f as ih =>
    cases as with
    | nil => rfl
    | cons a as =>
      have hlen : as.length + 1 ≤ sizeList (a :: as) := length_le_sizeList (a :: as)
      have hj := sizeList_le_length_joinComma fun e (_ : e ∈ a :: as) => size_le_length_render e
      simp only [render, List.cons_append, List.nil_append, List.append_assoc]
      rw [parseExpr, args_render (parseExpr N k) as a _ [] rest
        (fun x hx r => ih x hx k r (by have := size_le_sizeList hx; omega))
        (by simp only [List.length_append, List.length_cons]; omega)]
      rfl
  case minus f l r ihl ihr | div f l r ihl ihr | pow f l r ihl ihr =>
    simp only [render, List.cons_append, List.nil_append, List.append_assoc]
    rw [parseExpr]
    simp only [ihl k _ (by omega : size l ≤ k), ihr k _ (by omega : size r ≤ k)]
    rfl
  case neg f u ih | recip f u ih | cos f u ih | sin f u ih | npow f u n ih | nroot f u n ih |
      exp f u b ih | log f u b ih =>
    simp only [render, List.cons_append, List.nil_append, List.append_assoc]
    rw [parseExpr]
    simp only [ih k _ (by omega : size u ≤ k)]
    rfl

theorem parse_render_list :
    ∀ (es : List (Expr α)), ∀ x ∈ es, ∀ (k : Nat) (rest : List (Tok α)), size x ≤ k →
      parseExpr N k (render x ++ rest) = some (x.fresh, rest) :=
  fun _ x _ => parse_render_of_size_le N x

/-- the fuel the driver uses: one more than the number of tokens -/
theorem parse_render_length (e : Expr α) (rest : List (Tok α)) :
    parseExpr N ((render e).length + 1) (render e ++ rest) = some (e.fresh, rest) :=
  parse_render_of_size_le N e _ rest (Nat.le_succ_of_le (size_le_length_render e))

theorem parse_render_driver (e : Expr α) :
    parseExpr N ((render e).length + 1) (render e) = some (e.fresh, []) := by
  simpa using parse_render_length N e []

end

theorem args_mono {sub sub' : List (Tok α) → Option (Expr α × List (Tok α))}
    (h : ∀ ts r, sub ts = some r → sub' ts = some r) :
    ∀ (m : Nat) (ts : List (Tok α)) (acc : List (Expr α)) (r : List (Expr α) × List (Tok α)),
      parseExpr.args sub m ts acc = some r → parseExpr.args sub' m ts acc = some r
  | 0, ts, acc, r, hr => by simp [parseExpr.args] at hr
  | m + 1, ts, acc, r, hr => by
    by_cases hts : ∃ rest, ts = Tok.rp :: rest
    · obtain ⟨rest, rfl⟩ := hts
      rw [parseExpr.args.eq_2] at hr ⊢; exact hr
    · have hts' : ∀ rest, ts = Tok.rp :: rest → False := fun rest e => hts ⟨rest, e⟩
      rw [parseExpr.args.eq_3 _ _ _ _ hts'] at hr ⊢
      cases hs : sub ts with
      | none => simp [hs] at hr
      | some p =>
        rw [h _ _ hs]; rw [hs] at hr
        split at hr
        · exact args_mono h m _ _ _ hr
        · exact hr
        · exact hr

theorem parse_step_mono (N : Num α) {k k' : Nat}
    (ih : ∀ ts r, parseExpr N k ts = some r → parseExpr N k' ts = some r)
    (ts : List (Tok α)) (r : Expr α × List (Tok α))
    (h : parseExpr N (k + 1) ts = some r) : parseExpr N (k' + 1) ts = some r := by
  -- one case per class name (and `h_16`: no class name); the parser's local functions `unary`,
  -- `binary` are `have`s that `dsimp only` puts in
  unfold parseExpr at h
  split at h
  case h_16 => cases h
  all_goals
    rw [parseExpr]
    dsimp only at h ⊢
  case h_1 | h_2 => exact h
  case h_3 | h_4 =>
    obtain ⟨p, hp, rfl⟩ := Option.map_eq_some_iff.mp h
    rw [args_mono ih _ _ _ _ hp]
    rfl
  -- `Minus`, `Divide`, `Power` read two operands, the other classes one
  case h_5 rest | h_6 rest | h_7 rest =>
    cases hs : parseExpr N k rest with
    | none => rw [hs] at h; cases h
    | some p =>
      rw [ih _ _ hs]
      rw [hs] at h
      split at h
      · next a rest₁ hp =>
        cases hp
        cases hs₁ : parseExpr N k rest₁ with
        | none => rw [hs₁] at h; cases h
        | some q => rw [ih _ _ hs₁]; rw [hs₁] at h; exact h
      · cases h
  all_goals
    rename_i rest
    cases hs : parseExpr N k rest with
    | none => rw [hs] at h; cases h
    | some p => rw [ih _ _ hs]; rw [hs] at h; exact h

theorem parse_mono (N : Num α) : ∀ (k : Nat) (ts : List (Tok α)) (r : Expr α × List (Tok α)),
    parseExpr N k ts = some r → parseExpr N (k + 1) ts = some r
  | 0, ts, r, h => by simp [parseExpr] at h
  | k + 1, ts, r, h => parse_step_mono N (parse_mono N k) ts r h

theorem parse_mono_le (N : Num α) {k k' : Nat} (hk : k ≤ k') (ts : List (Tok α))
    (r : Expr α × List (Tok α)) (h : parseExpr N k ts = some r) : parseExpr N k' ts = some r := by
  induction hk with
  | refl => exact h
  | step _ ih => exact parse_mono N _ ts r ih

theorem renderList_fresh_of {es : List (Expr α)} (h : ∀ e ∈ es, render e.fresh = render e) :
    renderList (freshList es) = renderList es := by
  rw [freshList_eq_map, renderList_eq_map, renderList_eq_map, List.map_map]
  exact List.map_congr_left h

theorem render_fresh (e : Expr α) : render e.fresh = render e := by
  induction e using Expr.ind_children with
  | h e ih => rw [render_eq, render_eq e, ctor_fresh, children_fresh, tail_fresh, renderList_fresh_of ih]

theorem renderList_fresh : ∀ es : List (Expr α), renderList (freshList es) = renderList es :=
  fun _ => renderList_fresh_of fun e _ => render_fresh e

/-- prefix-freeness, given some number structure to run the parser with -/
theorem render_prefix_free_of_num (N : Num α) (a b : Expr α) (r1 r2 : List (Tok α))
    (h : render a ++ r1 = render b ++ r2) : a.fresh = b.fresh ∧ r1 = r2 := by
  have ha := parse_render_of_size_le N a (max (size a) (size b)) r1 (Nat.le_max_left _ _)
  have hb := parse_render_of_size_le N b (max (size a) (size b)) r2 (Nat.le_max_right _ _)
  rw [h, hb] at ha
  simpa [eq_comm] using ha

/-! To get rid of the number structure (`Num α` has no inhabitant when `α` is empty, while
`Expr α` still has variables, sums, …) the numbers are embedded into `Option α`. -/

variable {β : Type}

def Tok.map (f : α → β) : Tok α → Tok β
  | .ident s => .ident s | .lp => .lp | .rp => .rp | .comma => .comma | .eqs => .eqs
  | .str s => .str s | .num v => .num (f v) | .nat n => .nat n

mutual
def Expr.mapNum (f : α → β) : Expr α → Expr β
  | .const g v => .const g (f v) | .var g x => .var g x
  | .add g as => .add g (mapNumList f as) | .mul g as => .mul g (mapNumList f as)
  | .minus g l r => .minus g (mapNum f l) (mapNum f r)
  | .div g l r => .div g (mapNum f l) (mapNum f r)
  | .pow g l r => .pow g (mapNum f l) (mapNum f r)
  | .neg g u => .neg g (mapNum f u) | .recip g u => .recip g (mapNum f u)
  | .npow g u n => .npow g (mapNum f u) n | .nroot g u n => .nroot g (mapNum f u) n
  | .exp g u b => .exp g (mapNum f u) (f b) | .log g u b => .log g (mapNum f u) (f b)
  | .cos g u => .cos g (mapNum f u) | .sin g u => .sin g (mapNum f u)
def Expr.mapNumList (f : α → β) : List (Expr α) → List (Expr β)
  | [] => []
  | e :: es => mapNum f e :: mapNumList f es
end

theorem joinComma_map (f : α → β) :
    ∀ l : List (List (Tok α)),
      joinComma (l.map (List.map (Tok.map f))) = (joinComma l).map (Tok.map f)
  | [] => rfl
  | [x] => rfl
  | x :: y :: r => by
    have := joinComma_map f (y :: r)
    simp only [joinComma, List.map_cons, List.map_append, List.map_nil] at this ⊢
    rw [this]
    rfl

theorem mapNumList_eq_map (f : α → β) (es : List (Expr α)) : mapNumList f es = es.map (mapNum f) := by
  induction es with
  | nil => rfl
  | cons e es ih => rw [mapNumList, ih, List.map_cons]

theorem Expr.ctor_mapNum (f : α → β) (e : Expr α) : (mapNum f e).ctor = e.ctor := by
  cases e <;> rfl
theorem children_mapNum (f : α → β) (e : Expr α) : children (mapNum f e) = mapNumList f (children e) := by
  cases e <;> rfl
theorem Expr.tail_mapNum (f : α → β) (e : Expr α) :
    (mapNum f e).tail = e.tail.map (Tok.map f) := by
  cases e <;> rfl

theorem renderList_mapNum_of (f : α → β) {es : List (Expr α)}
    (h : ∀ e ∈ es, render (mapNum f e) = (render e).map (Tok.map f)) :
    renderList (mapNumList f es) = (renderList es).map (List.map (Tok.map f)) := by
  rw [mapNumList_eq_map, renderList_eq_map, renderList_eq_map, List.map_map, List.map_map]
  exact List.map_congr_left h

theorem render_mapNum (f : α → β) (e : Expr α) :
    render (mapNum f e) = (render e).map (Tok.map f) := by
  induction e using Expr.ind_children with
  | h e ih =>
    rw [render_eq, render_eq e, ctor_mapNum, children_mapNum, tail_mapNum, renderList_mapNum_of f ih,
      joinComma_map]
    simp only [List.map_cons, List.map_append, Tok.map]

theorem renderList_mapNum (f : α → β) :
    ∀ es : List (Expr α), renderList (mapNumList f es) = (renderList es).map (List.map (Tok.map f)) :=
  fun _ => renderList_mapNum_of f fun e _ => render_mapNum f e

theorem fresh_mapNum (f : α → β) (e : Expr α) : (mapNum f e).fresh = mapNum f e.fresh := by
  induction e using Expr.ind with
  | add _ as ih | mul _ as ih =>
    simp only [mapNum, fresh, freshList_eq_map, mapNumList_eq_map, List.map_map]
    exact congrArg _ (List.map_congr_left ih)
  | _ => simp only [mapNum, fresh, *]

theorem freshList_mapNum (f : α → β) :
    ∀ es : List (Expr α), freshList (mapNumList f es) = mapNumList f (freshList es) := by
  intro es
  rw [freshList_eq_map, freshList_eq_map, mapNumList_eq_map, mapNumList_eq_map, List.map_map,
    List.map_map]
  exact List.map_congr_left fun e _ => fresh_mapNum f e

theorem mapNumList_inj_of {f : α → β} {as : List (Expr α)}
    (h : ∀ a ∈ as, ∀ b, mapNum f a = mapNum f b → a = b) :
    ∀ bs, mapNumList f as = mapNumList f bs → as = bs := by
  induction as with
  | nil => intro bs hb; cases bs with | nil => rfl | cons => cases hb
  | cons a as ih =>
    intro bs hb
    cases bs with
    | nil => cases hb
    | cons b bs =>
      injection hb with h₁ h₂
      rw [h a List.mem_cons_self b h₁, ih (fun c hc => h c (List.mem_cons_of_mem _ hc)) bs h₂]

theorem mapNum_ctor_eq {f : α → β} {a b : Expr α} (h : mapNum f a = mapNum f b) :
    a.ctor = b.ctor := by
  rw [← ctor_mapNum f a, h, ctor_mapNum]

theorem mapNum_inj {f : α → β} (hf : ∀ x y, f x = f y → x = y) (a b : Expr α) :
    mapNum f a = mapNum f b → a = b := by
  induction a, b using Expr.ind₂ with
  | off a b hne => exact fun h => absurd (mapNum_ctor_eq h) hne
  | const =>
    intro h
    injection h with hg hv
    rw [hg, hf _ _ hv]
  | var =>
    intro h
    injection h with hg hx
    rw [hg, hx]
  | add _ _ _ _ ih | mul _ _ _ _ ih =>
    intro h
    injection h with hg has
    rw [hg, mapNumList_inj_of ih _ has]
  | minus _ _ _ _ _ _ ihl ihr | div _ _ _ _ _ _ ihl ihr | pow _ _ _ _ _ _ ihl ihr =>
    intro h
    injection h with hg hl hr
    rw [hg, ihl _ hl, ihr _ hr]
  | neg _ _ _ _ ih | recip _ _ _ _ ih | cos _ _ _ _ ih | sin _ _ _ _ ih =>
    intro h
    injection h with hg hu
    rw [hg, ih _ hu]
  | npow _ _ _ _ _ _ ih | nroot _ _ _ _ _ _ ih =>
    intro h
    injection h with hg hu hn
    rw [hg, ih _ hu, hn]
  | exp _ _ _ _ _ _ ih | log _ _ _ _ _ _ ih =>
    intro h
    injection h with hg hu hx
    rw [hg, ih _ hu, hf _ _ hx]

theorem mapNumList_inj {f : α → β} (hf : ∀ x y, f x = f y → x = y) :
    ∀ as bs : List (Expr α), mapNumList f as = mapNumList f bs → as = bs :=
  fun _ => mapNumList_inj_of fun a _ => mapNum_inj hf a

theorem Tok.map_inj {f : α → β} (hf : ∀ x y, f x = f y → x = y) :
    ∀ s t : Tok α, Tok.map f s = Tok.map f t → s = t := by
  intro s t h
  cases s <;> cases t <;> simp [Tok.map] at h ⊢ <;> first | exact h | exact hf _ _ h

/-- a number structure on `Option α`, whatever `α` is (only its existence matters) -/
def optionNum (α : Type) : Num (Option α) where
  ofNat _ := none
  e := none
  add _ _ := none
  sub _ _ := none
  neg _ := none
  mul _ _ := none
  div _ _ := none
  powNat _ _ := none
  rpow _ _ := .ok none
  sqrt _ := .ok none
  cbrt _ := .ok none
  logb _ _ := .ok none
  sin _ := .ok none
  cos _ := .ok none
  isZero _ := false
  isNeg _ := false
  eq _ _ := false
  toInt _ := none

theorem render_prefix_free (a b : Expr α) (r1 r2 : List (Tok α))
    (h : render a ++ r1 = render b ++ r2) : a.fresh = b.fresh ∧ r1 = r2 := by
  have hs : ∀ x y : α, some x = some y → x = y := fun _ _ h => Option.some.inj h
  have h' := congrArg (List.map (Tok.map (some : α → Option α))) h
  simp only [List.map_append, ← render_mapNum] at h'
  obtain ⟨h1, h2⟩ := render_prefix_free_of_num (optionNum α) _ _ _ _ h'
  rw [fresh_mapNum, fresh_mapNum] at h1
  exact ⟨mapNum_inj hs _ _ h1, (List.map_inj_right (Tok.map_inj hs)).mp h2⟩

theorem render_injective_fresh (a b : Expr α) (h : render a = render b) : a.fresh = b.fresh :=
  (render_prefix_free a b [] [] (by simpa using h)).1

theorem render_eq_iff_fresh (a b : Expr α) : render a = render b ↔ a.fresh = b.fresh :=
  ⟨render_injective_fresh a b, fun h => by rw [← render_fresh a, h, render_fresh]⟩

section
variable (N : Num α)

theorem beqList_refl_pr (hrefl : ∀ v, N.eq v v = true) : ∀ es : List (Expr α), beqList N es es = true :=
  fun _ => beqList_refl_of fun e _ => beq_refl_of hrefl e

theorem beq_fresh_self (hrefl : ∀ v, N.eq v v = true) (e : Expr α) :
    beq N e.fresh e = true ∧ beq N e e.fresh = true := by
  rw [beq_fresh_left, beq_fresh_right]
  exact ⟨beq_refl_of hrefl e, beq_refl_of hrefl e⟩

theorem beq_of_render_eq (hrefl : ∀ v, N.eq v v = true) (a b : Expr α) (h : render a = render b) :
    beq N a b = true :=
  beq_of_fresh_eq N hrefl (render_injective_fresh a b h)

end

end Smooth
