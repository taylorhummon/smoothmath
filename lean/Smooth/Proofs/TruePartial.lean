/-
Proofs/TruePartial — `truePartial p y e` (the `deriv` of the denotation along coordinate `y`) and the
statements that forward mode, one reverse traversal, `_numeric_partials` and `LocatedDifferential`
compute it.
-/
import Smooth.Proofs.Reverse
import Smooth.Proofs.Order
import Smooth.Model.Objects

namespace Smooth
open Expr

/-- the true partial derivative of `e` with respect to `y` at the point -/
noncomputable def truePartial (p : Point ℝ) (y : String) (e : Expr ℝ) : ℝ :=
  deriv (fun t => den (upd (valOf p) y t) e) (valOf p y)

theorem tp_fwd_is_truePartial (p : Point ℝ) (y : String) (e : Expr ℝ) (hwf : WF e) (hs : Supp p e)
    (hd : Dom (valOf p) e) : fwdG realNum p y e = .ok (truePartial p y e) := by
  obtain ⟨d, h, hder⟩ := (fwdR_spec p y e hwf).on_domain hs hd
  rw [h, truePartial, hder.deriv]

theorem tp_rev_adds_true_partials (p : Point ℝ) (e : Expr ℝ) (hwf : WF e) (hs : Supp p e)
    (hd : Dom (valOf p) e) (m : ℝ) (acc : Acc ℝ) :
    ∃ acc', revG realNum p e m acc = .ok acc' ∧
      ∀ y, getA acc' y = getA acc y + m * truePartial p y e := by
  obtain ⟨acc', h, hacc⟩ := (revR_spec p e hwf m acc).on_domain hs hd
  exact ⟨acc', h, fun y => hacc y _ (tp_fwd_is_truePartial p y e hwf hs hd)⟩

theorem tp_numericPartials_true (p : Point ℝ) (e : Expr ℝ) (hwf : WF e) (hs : Supp p e)
    (hd : Dom (valOf p) e) :
    ∃ d, numericPartials realNum p e = .ok d ∧
      ∀ y, Acc.get? d y = if y ∈ e.vars then some (truePartial p y e) else none := by
  obtain ⟨acc', h, hacc⟩ := tp_rev_adds_true_partials p e hwf hs hd 1 []
  refine ⟨readBack realNum acc' e.vars, ?_, fun y => ?_⟩
  · rw [numericPartials_eq_over, numericPartialsOver]
    simp only [realNum_one, h, rmonad]
  · rw [get?_readBack]
    have := hacc y
    simp only [getA, Acc.get?, Point.get?, Option.getD_none, zero_add, one_mul] at this
    simp only [realNum_zero]
    split
    · rw [show (Acc.get? acc' y).getD 0 = truePartial p y e from this]
    · rfl

theorem tp_truePartial_not_occurring (p : Point ℝ) (y : String) (e : Expr ℝ) (hy : ¬ Occurs y e) :
    truePartial p y e = 0 := by
  unfold truePartial
  have : (fun t => den (upd (valOf p) y t) e) = fun _ => den (valOf p) e := by
    funext t; exact den_upd_of_not_occurs (valOf p) e hy t
  rw [this]; simp

theorem tp_located_component_true (p : Point ℝ) (e : Expr ℝ) (hwf : WF e) (hs : Supp p e)
    (hd : Dom (valOf p) e) (y : String) :
    ∃ L, LocatedObj.new realNum e p = .ok L ∧ L.component realNum y = truePartial p y e := by
  obtain ⟨d, h, hget⟩ := tp_numericPartials_true p e hwf hs hd
  refine ⟨⟨e, p, d⟩, by simp [LocatedObj.new, h, rmonad], ?_⟩
  simp only [LocatedObj.component, hget y, realNum_zero]
  split
  · rfl
  · next hy =>
    have : ¬ Occurs y e := fun h => hy ((mem_vars y e).mpr h)
    simp [tp_truePartial_not_occurring p y e this]

theorem tp_differential_late_at (p : Point ℝ) (e : Expr ℝ) (hwf : WF e) (hs : Supp p e)
    (hd : Dom (valOf p) e) :
    (DifferentialObj.mk e none).at realNum p = LocatedObj.new realNum e p := by
  simp [DifferentialObj.at, routes_evalG_ok hwf hs hd, rmonad]

end Smooth
