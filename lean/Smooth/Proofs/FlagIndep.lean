/-
Proofs/FlagIndep — the reduction memo flags (`_is_fully_reduced`, `_evaluation_failed`) never change
the result of `_fully_reduce` (property C09, second memo mechanism).

`pstep N` is the pure rewrite step on trees, blind to flags: constant folding at the outermost
foldable position, else the step inside the first operand that can be stepped, else the first
applicable reducer of the node's class.  From a sound flagging (`FlagsSound`, Proofs/FlagSound) one
call of `stepF` either only changes flags (the tree with all flags erased is unchanged) or performs
exactly the `pstep` of the erased tree; in both cases the flagging stays sound.  A flagged root in a
sound flagging is a `pstep`-normal form.  As `pstep` is a function, the erased result of the loop
does not depend on the flagging.  Generic in the number record `N`.
-/
import Smooth.Proofs.FlagSound

namespace Smooth
open Expr
variable {α : Type}

/-- constant folding, blind to flags: the value, if the tree is variable-free, not a `Constant`, and
evaluates -/
def pfold (N : Num α) (e : Expr α) : Option α :=
  if e.vars.isEmpty && !isConstNode e then
    match evalG N [] e with
    | .ok v => some v
    | .error _ => none
  else none

/-- the pure step at a node, given the pure step inside its operands -/
def pnode (N : Num α) (self : Expr α) (child : Option (Expr α)) : Option (Expr α) :=
  match pfold N self with
  | some v => some (mkConst v)
  | none =>
    match child with
    | some r => some r
    | none => (firstRule N self (reducers self)).map (·.2)

mutual
/-- the pure rewrite step: no flag is consulted -/
def pstep (N : Num α) : Expr α → Option (Expr α)
  | .const _ _ => none
  | .var _ _ => none
  | .add f as => pnode N (.add f as) ((pstepList N as).map mkAdd)
  | .mul f as => pnode N (.mul f as) ((pstepList N as).map mkMul)
  | .minus f l r => pnode N (.minus f l r)
      (match pstep N l with
        | some l' => some (mkMinus l' r)
        | none => (pstep N r).map (mkMinus l))
  | .div f l r => pnode N (.div f l r)
      (match pstep N l with
        | some l' => some (mkDiv l' r)
        | none => (pstep N r).map (mkDiv l))
  | .pow f l r => pnode N (.pow f l r)
      (match pstep N l with
        | some l' => some (mkPow l' r)
        | none => (pstep N r).map (mkPow l))
  | .neg f u => pnode N (.neg f u) ((pstep N u).map mkNeg)
  | .recip f u => pnode N (.recip f u) ((pstep N u).map mkRecip)
  | .npow f u n => pnode N (.npow f u n) ((pstep N u).map (mkNPow · n))
  | .nroot f u n => pnode N (.nroot f u n) ((pstep N u).map (mkNRoot · n))
  | .exp f u b => pnode N (.exp f u b) ((pstep N u).map (mkExp · b))
  | .log f u b => pnode N (.log f u b) ((pstep N u).map (mkLog · b))
  | .cos f u => pnode N (.cos f u) ((pstep N u).map mkCos)
  | .sin f u => pnode N (.sin f u) ((pstep N u).map mkSin)
/-- the pure step inside the first operand (left to right) that can be stepped -/
def pstepList (N : Num α) : List (Expr α) → Option (List (Expr α))
  | [] => none
  | e :: es =>
    match pstep N e with
    | some e' => some (e' :: es)
    | none => (pstepList N es).map (e :: ·)
end

theorem fi_children_induction_list {P : Expr α → Prop}
    (h : ∀ e, (∀ c ∈ children e, P c) → P e) : ∀ es : List (Expr α), ∀ c ∈ es, P c :=
  fun _ c _ => Expr.ind_children h c

def pstepKids (N : Num α) (e : Expr α) : Option (Expr α) :=
  (pstepList N (children e)).map (rebuildNode e)

theorem fi_pstepKids_unary (N : Num α) (e u : Expr α) (mk : Expr α → Expr α)
    (hc : children e = [u]) (hr : ∀ c, rebuildNode e [c] = mk c) :
    (pstep N u).map mk = pstepKids N e := by
  unfold pstepKids
  rw [hc]
  simp only [pstepList]
  cases pstep N u <;> simp [hr]

theorem fi_pstepKids_binary (N : Num α) (e l r : Expr α) (mk : Expr α → Expr α → Expr α)
    (hc : children e = [l, r]) (hr : ∀ a b, rebuildNode e [a, b] = mk a b) :
    (match pstep N l with
      | some l' => some (mk l' r)
      | none => (pstep N r).map (mk l)) = pstepKids N e := by
  unfold pstepKids
  rw [hc]
  simp only [pstepList]
  cases pstep N l
  · cases pstep N r <;> simp [hr]
  · simp [hr]

theorem fi_pstep_uniform (N : Num α) (e : Expr α) : pstep N e = pnode N e (pstepKids N e) := by
  cases e
  case const f v =>
    simp [pstep, pnode, pfold, isConstNode, pstepKids, children, pstepList, reducers, firstRule]
  case var f x =>
    simp [pstep, pnode, pfold, vars, varsAux, pstepKids, children, pstepList, reducers, firstRule]
  case add | mul => rw [pstep]; rfl
  case minus f l r | div f l r | pow f l r =>
    rw [pstep]
    exact congrArg _ (fi_pstepKids_binary N _ l r _ rfl fun _ _ => rfl)
  case neg f u | recip f u | cos f u | sin f u =>
    rw [pstep]
    exact congrArg _ (fi_pstepKids_unary N _ u _ rfl fun _ => rfl)
  case npow f u n | nroot f u n | exp f u b | log f u b =>
    rw [pstep]
    exact congrArg _ (fi_pstepKids_unary N _ u _ rfl fun _ => rfl)

theorem pstepList_none (N : Num α) {as : List (Expr α)} (h : ∀ a ∈ as, pstep N a = none) :
    pstepList N as = none := by
  induction as with
  | nil => rfl
  | cons a as ih =>
    rw [List.forall_mem_cons] at h
    rw [pstepList, h.1, ih h.2]
    rfl

theorem pstepList_one (N : Num α) {pre post : List (Expr α)} {c c' : Expr α}
    (hpre : ∀ a ∈ pre, pstep N a = none) (hc : pstep N c = some c') :
    pstepList N (pre ++ c :: post) = some (pre ++ c' :: post) := by
  induction pre with
  | nil => rw [List.nil_append, pstepList, hc]; rfl
  | cons a pre ih =>
    rw [List.forall_mem_cons] at hpre
    rw [List.cons_append, pstepList, hpre.1, ih hpre.2]
    rfl

theorem fi_pfold_congr (N : Num α) {e e' : Expr α} (h : e.fresh = e'.fresh) :
    pfold N e = pfold N e' := by
  unfold pfold
  rw [← ff_vars_fresh e, ← ff_vars_fresh e', ← ff_isConstNode_fresh e, ← ff_isConstNode_fresh e',
    evalG_congr_fresh N [] h, h]

theorem fi_noFold_iff (N : Num α) (e : Expr α) : NoFold N e ↔ pfold N e = none := by
  unfold NoFold pfold
  constructor
  · intro h
    split
    · rename_i hc
      simp only [Bool.and_eq_true, Bool.not_eq_eq_eq_not, Bool.not_true] at hc
      split
      · rename_i v hv
        exact absurd hv (h hc.1 hc.2 v)
      · rfl
    · rfl
  · intro h hv hc v hev
    simp [hv, hc, hev] at h

/-- what `_consolidate_expression_lacking_variables` does at a node whose `failed` flag is sound -/
theorem fi_foldAttempt_cases (N : Num α) (e : Expr α)
    (hf : e.flags.failed = true → ReallyFails N e) :
    (∃ v, foldAttempt N e = some (.inl v) ∧ pfold N e = some v) ∨
      (pfold N e = none ∧ (∀ v, foldAttempt N e ≠ some (.inl v)) ∧
        (foldAttempt N e = some (.inr ()) → ReallyFails N e)) := by
  unfold foldAttempt pfold ReallyFails
  by_cases hv : e.vars.isEmpty = true
  · by_cases hc : isConstNode e = true
    · right; simp [hv, hc]
    · simp only [Bool.not_eq_true] at hc
      by_cases hfl : e.flags.failed = true
      · right
        have := (hf hfl).2
        simp [hv, hc, hfl, this]
      · cases hev : evalG N [] e with
        | ok v => left; exact ⟨v, by simp [hv, hc, hfl], by simp [hv, hc]⟩
        | error err =>
          right
          cases err <;> simp [hv, hc, hfl]
  · right; simp [hv]

theorem pstep_fresh (N : Num α) (e : Expr α) :
    pstep N e.fresh = match pfold N e with
      | some v => some (mkConst v)
      | none => match pstepList N ((children e).map fresh) with
        | some cs => some (rebuildNode e cs)
        | none => (firstRule N e (reducers e)).map (·.2.fresh) := by
  rw [fi_pstep_uniform]
  unfold pnode pstepKids
  rw [fi_pfold_congr N (ff_fresh_fresh e), ff_children_fresh, ff_firstRule_fresh]
  cases pfold N e
  · cases pstepList N ((children e).map fresh)
    · simp only [Option.map_none, Option.map_map]
      rfl
    · simp only [Option.map_some, ff_rebuild_fresh_left]
  · rfl

theorem pstep_none_of_red (N : Num α) :
    ∀ e : Expr α, FlagsSound N e → e.isRed = true → pstep N e.fresh = none := by
  refine Expr.ind_children fun e ih hs hr => ?_
  obtain ⟨⟨hrule, hkids⟩, hnf⟩ := (hs e (Sub.refl e)).1 hr
  have hlist := pstepList_none N (List.forall_mem_map.mpr fun c hc =>
    ih c hc (hs.child hc) (hkids c hc))
  simp only [pstep_fresh, (fi_noFold_iff N e).mp hnf, hlist, hrule, Option.map_none]

/-- `stepF` took `e` to `e'`: the flagging is still sound, and on the trees with all flags erased the
step is either invisible or exactly the pure step -/
def StepSim (N : Num α) (e e' : Expr α) : Prop :=
  FlagsSound N e' ∧ (e'.fresh = e.fresh ∨ pstep N e.fresh = some e'.fresh)

theorem fi_not_folded {N : Num α} {e : Expr α} (hs : FlagsSound N e)
    (hnf : ∀ v, foldAttempt N e ≠ some (.inl v)) :
    pfold N e = none ∧ (foldAttempt N e = some (.inr ()) → ReallyFails N e) := by
  rcases fi_foldAttempt_cases N e (hs e (Sub.refl e)).2 with ⟨v, hv, _⟩ | ⟨hp, _, hfail⟩
  · exact absurd hv (hnf v)
  · exact ⟨hp, hfail⟩

/-- the node after constant folding was tried and did not succeed (`self'` of `StepShape`) -/
theorem flagsSound_self' {N : Num α} {e self' : Expr α} (hs : FlagsSound N e)
    (hr : e.isRed = false) (hnf : ∀ v, foldAttempt N e ≠ some (.inl v))
    (hself : self' = e ∨ (self' = e.markFailed ∧ foldAttempt N e = some (.inr ()))) :
    FlagsSound N self' ∧ self'.fresh = e.fresh ∧ children self' = children e := by
  rcases hself with rfl | ⟨rfl, hfa⟩
  · exact ⟨hs, rfl, rfl⟩
  · refine ⟨(flagsSound_setFlags N _ e).mpr ⟨⟨fun h => ?_, fun _ => (fi_not_folded hs hnf).2 hfa⟩,
      fun _ hc => hs.child hc⟩, fresh_setFlags _ e, children_setFlags _ e⟩
    rw [isRed] at hr
    rw [hr] at h
    cases h

theorem StepShape.sim {N : Num α} {e e' : Expr α} {ev : StepEvent} (h : StepShape N e e' ev)
    (hs : FlagsSound N e) : StepSim N e e' := by
  induction h with
  | already => exact ⟨hs, Or.inl rfl⟩
  | @fold e v _ hfa =>
    refine ⟨(flagsSound_of_default N rfl).mpr nofun, Or.inr ?_⟩
    rcases fi_foldAttempt_cases N e (hs e (Sub.refl e)).2 with ⟨v', hv', hp⟩ | ⟨_, hne, _⟩
    · obtain rfl : v' = v := by rw [hfa] at hv'; cases hv'; rfl
      rw [pstep_fresh, hp]
      rfl
    · exact absurd hfa (hne v)
  | @child e c pre post c' _ _ hnf hch hpre _ _ ih =>
    obtain ⟨hc', hsim⟩ := ih (hs.child (hch ▸ List.mem_append_right _ List.mem_cons_self))
    refine ⟨everywhere_rebuild_one (nodeSound_of_default N) hs hch hc', ?_⟩
    rw [ff_fresh_rebuild, List.map_append, List.map_cons]
    rcases hsim with h | h
    · exact Or.inl (by rw [h, ff_fresh_eq_rebuild e, hch, List.map_append, List.map_cons])
    · have hpre' : ∀ a ∈ pre.map fresh, pstep N a = none :=
        List.forall_mem_map.mpr fun a ha => pstep_none_of_red N a
          (hs.child (hch ▸ List.mem_append_left _ ha)) (hpre a ha)
      refine Or.inr ?_
      rw [pstep_fresh, (fi_not_folded hs hnf).1, hch, List.map_append, List.map_cons,
        pstepList_one N hpre' h]
  | @rule e self' e' r hr hnf hkids hself hfirst =>
    obtain ⟨hs', hfr, hch⟩ := flagsSound_self' hs hr hnf hself
    have hrule := (firstRule_eq_some hfirst).1
    have hlist := pstepList_none N (List.forall_mem_map.mpr fun c hc =>
      pstep_none_of_red N c (hs.child hc) (hkids c hc))
    refine ⟨rule_flagsSound N r hrule hs', Or.inr ?_⟩
    rw [← hfr, pstep_fresh, fi_pfold_congr N hfr, (fi_not_folded hs hnf).1, hch, hlist, hfirst]
    rfl
  | @flag e self' hr hnf hkids hself hnone =>
    obtain ⟨hs', hfr, hch⟩ := flagsSound_self' hs hr hnf hself
    refine ⟨(flagsSound_setFlags N _ self').mpr ⟨⟨fun _ => ⟨⟨hnone, hch ▸ hkids⟩, ?_⟩,
      (hs' self' (Sub.refl _)).2⟩, fun _ hc => hs'.child hc⟩,
      Or.inl ((fresh_setFlags _ self').trans hfr)⟩
    rw [fi_noFold_iff, fi_pfold_congr N hfr]
    exact (fi_not_folded hs hnf).1

theorem stepE_sim (N : Num α) {e : Expr α} (hs : FlagsSound N e) : StepSim N e (stepE N e) :=
  (stepF_shape N e).sim hs

/-- `b` is reached from `a` by finitely many pure steps -/
inductive PReach (N : Num α) : Expr α → Expr α → Prop
  | refl (a : Expr α) : PReach N a a
  | step {a b c : Expr α} : pstep N a = some b → PReach N b c → PReach N a c

theorem PReach.trans {N : Num α} {a b c : Expr α} (h1 : PReach N a b) (h2 : PReach N b c) :
    PReach N a c := by
  induction h1 with
  | refl => exact h2
  | step h _ ih => exact PReach.step h (ih h2)

theorem PReach.snoc {N : Num α} {a b c : Expr α} (h1 : PReach N a b) (h2 : pstep N b = some c) :
    PReach N a c :=
  h1.trans (PReach.step h2 (PReach.refl c))

/-- the pure step is a function: a chain of pure steps ends in at most one normal form -/
theorem PReach.normal_unique {N : Num α} {a b c : Expr α} (h1 : PReach N a b)
    (hb : pstep N b = none) (h2 : PReach N a c) (hc : pstep N c = none) : b = c := by
  induction h1 with
  | refl =>
    cases h2 with
    | refl => rfl
    | step h _ => rw [hb] at h; cases h
  | step h _ ih =>
    cases h2 with
    | refl => rw [hc] at h; cases h
    | step h' t' =>
      rw [h] at h'
      cases h'
      exact ih hb t'

theorem PReach.linear {N : Num α} {a b c : Expr α} (h1 : PReach N a b) (h2 : PReach N a c) :
    PReach N b c ∨ PReach N c b := by
  induction h1 with
  | refl => exact Or.inl h2
  | step h t ih =>
    cases h2 with
    | refl => exact Or.inr (PReach.step h t)
    | step h' t' =>
      rw [h] at h'
      cases h'
      exact ih t'

theorem StepSim.reach {N : Num α} {e e' : Expr α} (h : StepSim N e e') :
    PReach N e.fresh e'.fresh := by
  rcases h.2 with h2 | h2
  · rw [h2]; exact PReach.refl _
  · exact PReach.step h2 (PReach.refl _)

theorem iterate_sim (N : Num α) {e : Expr α} (hs : FlagsSound N e) :
    ∀ k, FlagsSound N ((stepE N)^[k] e) ∧ PReach N e.fresh ((stepE N)^[k] e).fresh
  | 0 => ⟨hs, PReach.refl _⟩
  | k + 1 => by
    rw [Function.iterate_succ_apply']
    obtain ⟨h1, h2⟩ := iterate_sim N hs k
    have h3 := stepE_sim N h1
    exact ⟨h3.1, h2.trans h3.reach⟩

theorem iterate_flag_independent (N : Num α) {e₁ e₂ : Expr α} (h₁ : FlagsSound N e₁)
    (h₂ : FlagsSound N e₂) (heq : e₁.fresh = e₂.fresh) {k₁ k₂ : Nat}
    (r₁ : ((stepE N)^[k₁] e₁).isRed = true) (r₂ : ((stepE N)^[k₂] e₂).isRed = true) :
    ((stepE N)^[k₁] e₁).fresh = ((stepE N)^[k₂] e₂).fresh := by
  obtain ⟨s₁, p₁⟩ := iterate_sim N h₁ k₁
  obtain ⟨s₂, p₂⟩ := iterate_sim N h₂ k₂
  rw [heq] at p₁
  exact p₁.normal_unique (pstep_none_of_red N _ s₁ r₁) p₂ (pstep_none_of_red N _ s₂ r₂)

theorem fi_fullyReduceLoop_reach (N : Num α) :
    ∀ (fuel : Nat) (e : Expr α) (k : Nat) (tr : List StepEvent), FlagsSound N e →
      PReach N e.fresh (fullyReduceLoop N fuel e k tr).expr.fresh ∧
        ((fullyReduceLoop N fuel e k tr).warned = false →
          FlagsSound N (fullyReduceLoop N fuel e k tr).expr)
  | 0, e, k, tr, _ => by
    simp only [fullyReduceLoop, markRed, fresh_setFlags]
    exact ⟨PReach.refl _, fun h => by cases h⟩
  | fuel + 1, e, k, tr, hs => by
    unfold fullyReduceLoop
    split
    · exact ⟨PReach.refl _, fun _ => hs⟩
    · have h3 := stepE_sim N hs
      obtain ⟨h1, h2⟩ := fi_fullyReduceLoop_reach N fuel (stepF N e).1 (k + 1)
        ((stepF N e).2 :: tr) h3.1
      exact ⟨h3.reach.trans h1, h2⟩

/-- C09, reduction flags.  Two sound flaggings of the same tree, any two budgets that suffice
(no warning): `_fully_reduce` returns the same tree up to flags. -/
theorem fullyReduceWith_flag_independent (N : Num α) {e₁ e₂ : Expr α} (h₁ : FlagsSound N e₁)
    (h₂ : FlagsSound N e₂) (heq : e₁.fresh = e₂.fresh) (b₁ b₂ : Nat)
    (w₁ : (fullyReduceWith N b₁ e₁).warned = false)
    (w₂ : (fullyReduceWith N b₂ e₂).warned = false) :
    (fullyReduceWith N b₁ e₁).expr.fresh = (fullyReduceWith N b₂ e₂).expr.fresh := by
  obtain ⟨n₁, q₁, r₁⟩ := fullyReduceLoop_eq_iterate N b₁ e₁ 0 [] w₁
  obtain ⟨n₂, q₂, r₂⟩ := fullyReduceLoop_eq_iterate N b₂ e₂ 0 [] w₂
  unfold fullyReduceWith
  rw [q₁, q₂]
  exact iterate_flag_independent N h₁ h₂ heq r₁ r₂

/-- budgets that suffice exist -/
theorem fullyReduceWith_flag_independent_large (N : Num α) {e₁ e₂ : Expr α}
    (h₁ : FlagsSound N e₁) (h₂ : FlagsSound N e₂) (heq : e₁.fresh = e₂.fresh) :
    ∃ K, ∀ b₁ b₂, K ≤ b₁ → K ≤ b₂ →
      (fullyReduceWith N b₁ e₁).warned = false ∧ (fullyReduceWith N b₂ e₂).warned = false ∧
      (fullyReduceWith N b₁ e₁).expr.fresh = (fullyReduceWith N b₂ e₂).expr.fresh := by
  obtain ⟨k₁, hk₁⟩ := exists_iterate_isRed N e₁
  obtain ⟨k₂, hk₂⟩ := exists_iterate_isRed N e₂
  refine ⟨max k₁ k₂ + 1, fun b₁ b₂ hb₁ hb₂ => ?_⟩
  have w₁ := (fullyReduceLoop_of_iterate N k₁ b₁ e₁ 0 [] hk₁ (by omega)).1
  have w₂ := (fullyReduceLoop_of_iterate N k₂ b₂ e₂ 0 [] hk₂ (by omega)).1
  exact ⟨w₁, w₂, fullyReduceWith_flag_independent N h₁ h₂ heq b₁ b₂ w₁ w₂⟩

end Smooth
