/-
Proofs/SymReverse — reverse symbolic mode over the reals (`symRev`, the model of
`_compute_synthetic_partials` with its `SyntheticPartialsAccumulator`; `syntheticPartials`, the model
of `_synthetic_partials`).  One traversal with multiplier `m` adds to the accumulated expression of
every variable an expression whose value is `den m ·` the value of the forward symbolic partial: pure
algebra, true at every valuation, since every local formula is linear in its multiplier
(`den_unarySymFormula`).  What is stored is in order by Proofs/SymClosed; the comparison with numeric
forward mode comes from Proofs/SymForward (`symFwd_den_eq_fwd`).
-/
import Smooth.Proofs.Replay
import Smooth.Proofs.Reverse
import Smooth.Proofs.SymForward

namespace Smooth
open Classical Expr

/-! `DomA`, `SuppA`, `WFA`, `RevOKA` and `OccA` are `SAcc.All P` (Proofs/SymClosed) for the predicate in
their name, written out; the closure theorems of SymClosed apply to them as they stand. -/

noncomputable def denA (ρ : String → ℝ) (acc : SAcc ℝ) (y : String) : ℝ :=
  match SAcc.get? acc y with
  | some s => den ρ s
  | none => 0

def DomA (ρ : String → ℝ) (acc : SAcc ℝ) : Prop := ∀ y s, SAcc.get? acc y = some s → Dom ρ s

def SuppA (p : Point ℝ) (acc : SAcc ℝ) : Prop := ∀ y s, SAcc.get? acc y = some s → Supp p s

def WFA (acc : SAcc ℝ) : Prop := ∀ y s, SAcc.get? acc y = some s → WF s

/-- what is required of the multiplier and established of everything stored -/
def RevOKE (p : Point ℝ) (s : Expr ℝ) : Prop := WF s ∧ Supp p s ∧ Dom (valOf p) s

def RevOKA (p : Point ℝ) (acc : SAcc ℝ) : Prop := ∀ y s, SAcc.get? acc y = some s → RevOKE p s

theorem RevOKA_iff (p : Point ℝ) (acc : SAcc ℝ) :
    RevOKA p acc ↔ WFA acc ∧ SuppA p acc ∧ DomA (valOf p) acc :=
  ⟨fun h => ⟨fun y s hs => (h y s hs).1, fun y s hs => (h y s hs).2.1, fun y s hs => (h y s hs).2.2⟩,
    fun h y s hs => ⟨h.1 y s hs, h.2.1 y s hs, h.2.2 y s hs⟩⟩

theorem denA_nil (ρ : String → ℝ) (y : String) : denA ρ [] y = 0 := rfl

theorem denA_addTo (ρ : String → ℝ) (acc : SAcc ℝ) (x z : String) (c : Expr ℝ) :
    denA ρ (SAcc.addTo acc x c) z = denA ρ acc z + (if z = x then den ρ c else 0) := by
  unfold denA
  rw [SAcc.get?_addTo]
  by_cases hzx : z = x
  · subst hzx
    cases hex : SAcc.get? acc z with
    | none => simp [SAcc.merged]
    | some ex => simp [SAcc.merged, den, denList]
  · simp [hzx]

theorem denA_symRevList {ρ : String → ℝ} {y : String} {m : Expr ℝ} {es : List (Expr ℝ)}
    (ih : ∀ a ∈ es, ∀ m acc, denA ρ (symRev realNum a m acc) y =
      denA ρ acc y + den ρ m * den ρ (symFwd realNum y a)) :
    ∀ acc, denA ρ (symRevList realNum es m acc) y =
      denA ρ acc y + den ρ m * (denList ρ (symFwdList realNum y es)).sum := by
  induction es with
  | nil =>
    intro acc
    simp only [symRevList, symFwdList, denList, List.sum_nil, mul_zero, add_zero]
  | cons e es ihes =>
    intro acc
    rw [symRevList, ihes fun a ha => ih a (List.mem_cons_of_mem _ ha), ih e List.mem_cons_self]
    simp only [symFwdList, denList, List.sum_cons]
    ring

/-- term `i` of `Multiply` gets `Multiply(m, *all_other_factors)`, which is what the `i`-th summand
of the symbolic product rule multiplies the partial of that term with -/
theorem denA_symRevMul {ρ : String → ℝ} {y : String} {all : List (Expr ℝ)} {m : Expr ℝ}
    {es : List (Expr ℝ)}
    (ih : ∀ a ∈ es, ∀ m acc, denA ρ (symRev realNum a m acc) y =
      denA ρ acc y + den ρ m * den ρ (symFwd realNum y a)) :
    ∀ i acc, denA ρ (symRevMul realNum all m i es acc) y =
      denA ρ acc y + den ρ m * (denList ρ (symMulTermsGo all i (symFwdList realNum y es))).sum := by
  induction es with
  | nil =>
    intro i acc
    simp only [symRevMul, symFwdList, symMulTermsGo, denList, List.sum_nil, mul_zero, add_zero]
  | cons e es ihes =>
    intro i acc
    rw [symRevMul, ihes fun a ha => ih a (List.mem_cons_of_mem _ ha), ih e List.mem_cons_self]
    simp only [symFwdList, symMulTermsGo, denList, den, List.sum_cons, List.prod_cons]
    ring

theorem denA_symRev (ρ : String → ℝ) (y : String) : ∀ (e m : Expr ℝ) (acc : SAcc ℝ),
    denA ρ (symRev realNum e m acc) y = denA ρ acc y + den ρ m * den ρ (symFwd realNum y e) := by
  intro e
  induction e using Expr.ind with
  | const f v =>
    intro m acc
    simp only [symRev, symFwd, den, realNum_zero, mul_zero, add_zero]
  | var f z =>
    intro m acc
    rw [symRev, symFwd, denA_addTo]
    by_cases hzy : z = y
    · simp [hzy, den]
    · simp [hzy, Ne.symm hzy, den]
  | add f as ih =>
    intro m acc
    rw [symRev, symFwd]
    exact denA_symRevList ih acc
  | mul f as ih =>
    intro m acc
    rw [symRev, symFwd]
    exact denA_symRevMul ih 0 acc
  | minus f l r ihl ihr =>
    intro m acc
    rw [symRev, symFwd, ihr, ihl]
    simp only [den]
    ring
  | div f l r ihl ihr =>
    intro m acc
    rw [symRev, symFwd, ihr, ihl]
    simp only [divSymLeft, divSymRight, den, denList, List.sum_cons, List.sum_nil, List.prod_cons,
      List.prod_nil]
    ring
  | pow f l r ihl ihr =>
    intro m acc
    rw [symRev, symFwd, ihr, ihl]
    simp only [powSymLeft, powSymRight, den, denList, List.sum_cons, List.sum_nil, List.prod_cons,
      List.prod_nil]
    ring
  | _ =>
    -- the eight unary classes: the local formula is linear in its multiplier
    rename_i ih
    intro m acc
    rw [symRev, symFwd, ih, den_unarySymFormula, den_unarySymFormula]
    ring

section occ
variable {α : Type}

def OccA (V : String → Prop) (acc : SAcc α) : Prop :=
  ∀ y s, SAcc.get? acc y = some s → ∀ x, Occurs x s → V x

theorem occA_symRevList (N : Num α) (V : String → Prop) : ∀ (es : List (Expr α)) (m : Expr α)
    (acc : SAcc α), (∀ x, OccursList x es → V x) → (∀ x, Occurs x m → V x) → OccA V acc →
    OccA V (symRevList N es m acc) :=
  fun es _ acc he hm ha =>
    symRevList_closed (occ_symClosed N V) (occ_symClosed N V).all_addTo acc
      (fun a ha x hx => he x ((occursList_iff x es).mpr ⟨a, ha, hx⟩)) hm ha

theorem occA_symRevMul (N : Num α) (V : String → Prop) (all : List (Expr α)) (m : Expr α) :
    ∀ (i : Nat) (es : List (Expr α)) (acc : SAcc α), (∀ x, OccursList x all → V x) →
    (∀ x, Occurs x m → V x) → (∀ x, OccursList x es → V x) → OccA V acc →
    OccA V (symRevMul N all m i es acc) :=
  fun i es acc hall hm he ha =>
    symRevMul_closed (occ_symClosed N V) (occ_symClosed N V).all_addTo i acc
      (fun a ha x hx => hall x ((occursList_iff x all).mpr ⟨a, ha, hx⟩)) hm
      (fun a ha x hx => he x ((occursList_iff x es).mpr ⟨a, ha, hx⟩)) ha

theorem syntheticPartials_occurs (N : Num α) (e : Expr α) {y : String} {s : Expr α}
    (hget : SAcc.get? (syntheticPartials N e) y = some s) {x : String} (hx : Occurs x s) :
    Occurs x e :=
  syntheticPartials_closed (occ_symClosed N fun x => Occurs x e) (fun _ h => h) y s hget x hx

end occ

theorem supp_symClosed (p : Point ℝ) : SymClosed realNum (Supp p) := by
  have h : Supp p = fun s => ∀ x, Occurs x s → (p.get? x).isSome :=
    funext fun s => propext (supp_iff_occurs p s)
  rw [h]
  exact occ_symClosed realNum _

theorem revOKE_symClosed (p : Point ℝ) : SymClosed realNum (RevOKE p) := by
  have h : RevOKE p = fun s => (WF s ∧ Dom (valOf p) s) ∧ Supp p s :=
    funext fun s => propext ⟨fun h => ⟨⟨h.1, h.2.2⟩, h.2.1⟩, fun h => ⟨h.1.1, h.2, h.1.2⟩⟩
  rw [h]
  exact (wfDom_symClosed (valOf p)).and (supp_symClosed p)

def RevOKL (p : Point ℝ) (es : List (Expr ℝ)) : Prop :=
  WFList es ∧ SuppList p es ∧ DomList (valOf p) es

theorem RevOKL.forall {p : Point ℝ} {es : List (Expr ℝ)} (h : RevOKL p es) :
    ∀ a ∈ es, RevOKE p a :=
  fun a ha => ⟨(wfList_iff _).mp h.1 a ha, (suppList_iff p es).mp h.2.1 a ha,
    (domList_iff _ es).mp h.2.2 a ha⟩

def SymRevSpec (p : Point ℝ) (e m : Expr ℝ) (acc acc' : SAcc ℝ) : Prop :=
  RevOKA p acc' ∧ ∀ y d, fwdG realNum p y e = .ok d →
    denA (valOf p) acc' y = denA (valOf p) acc y + den (valOf p) m * d

def SymRevSpecL (p : Point ℝ) (es : List (Expr ℝ)) (m : Expr ℝ) (acc acc' : SAcc ℝ) : Prop :=
  RevOKA p acc' ∧ ∀ y ds, fwdListG realNum p y es = .ok ds →
    denA (valOf p) acc' y = denA (valOf p) acc y + den (valOf p) m * ds.sum

/-- `Multiply` : term `k` gets `Multiply(m, *all_other_factors)`; `pre` are the factors already
handled -/
def SymRevSpecM (p : Point ℝ) (pre es : List (Expr ℝ)) (m : Expr ℝ) (acc acc' : SAcc ℝ) : Prop :=
  RevOKA p acc' ∧ ∀ y ds, fwdListG realNum p y es = .ok ds →
    denA (valOf p) acc' y = denA (valOf p) acc y +
      den (valOf p) m * ((denList (valOf p) pre).prod * prodDeriv ds (denList (valOf p) es))

theorem symRev_spec (p : Point ℝ) (e : Expr ℝ) (hwf : WF e) (hs : Supp p e)
    (hd : Dom (valOf p) e) (m : Expr ℝ) (acc : SAcc ℝ) (hm : RevOKE p m) (ha : RevOKA p acc) :
    SymRevSpec p e m acc (symRev realNum e m acc) := by
  refine ⟨symRev_closed (revOKE_symClosed p) (revOKE_symClosed p).all_addTo e m acc ⟨hwf, hs, hd⟩ hm ha,
    fun y d h => ?_⟩
  rw [denA_symRev, symFwd_den_eq_fwd hwf hs hd h]

theorem fwdListG_eq_symFwdList {p : Point ℝ} {y : String} : ∀ {es : List (Expr ℝ)} {ds : List ℝ},
    RevOKL p es → fwdListG realNum p y es = .ok ds →
    denList (valOf p) (symFwdList realNum y es) = ds
  | [], _, _, h => by
    cases h
    rfl
  | e :: es, _, hes, h => by
    obtain ⟨d, hd, h⟩ := R.bind_eq_ok_iff.mp h
    obtain ⟨ds, hds, h⟩ := R.bind_eq_ok_iff.mp h
    cases h
    rw [symFwdList, denList, symFwd_den_eq_fwd hes.1.1 hes.2.1.1 hes.2.2.1 hd,
      fwdListG_eq_symFwdList ⟨hes.1.2, hes.2.1.2, hes.2.2.2⟩ hds]

theorem symRev_spec_list (p : Point ℝ) : ∀ es : List (Expr ℝ), WFList es → SuppList p es →
    DomList (valOf p) es → ∀ (m : Expr ℝ) (acc : SAcc ℝ), RevOKE p m → RevOKA p acc →
    SymRevSpecL p es m acc (symRevList realNum es m acc) := by
  intro es hwf hs hd m acc hm ha
  have hes : RevOKL p es := ⟨hwf, hs, hd⟩
  refine ⟨symRevList_closed (revOKE_symClosed p) (revOKE_symClosed p).all_addTo acc hes.forall hm ha,
    fun y ds h => ?_⟩
  rw [denA_symRevList (fun a _ => denA_symRev _ y a), fwdListG_eq_symFwdList hes h]

theorem symRev_spec_mul (p : Point ℝ) : ∀ (pre es : List (Expr ℝ)), WFList es → SuppList p es →
    DomList (valOf p) es → RevOKL p pre → ∀ (m : Expr ℝ) (acc : SAcc ℝ), RevOKE p m → RevOKA p acc →
    SymRevSpecM p pre es m acc (symRevMul realNum (pre ++ es) m pre.length es acc) := by
  intro pre es hwf hs hd hpre m acc hm ha
  have hes : RevOKL p es := ⟨hwf, hs, hd⟩
  have hall : ∀ a ∈ pre ++ es, RevOKE p a := fun a ha =>
    (List.mem_append.mp ha).elim (hpre.forall a) (hes.forall a)
  refine ⟨symRevMul_closed (revOKE_symClosed p) (revOKE_symClosed p).all_addTo _ acc hall hm
    hes.forall ha, fun y ds h => ?_⟩
  have hds := fwdListG_eq_symFwdList hes h
  have hlen : ds.length = (denList (valOf p) es).length := by
    simp [← hds, denList_eq_map, symFwdList_eq_map]
  have hsum := mulTermsGo_sum (denList (valOf p) pre) ds _ hlen
  rw [denA_symRevMul (fun a _ => denA_symRev _ y a), denList_symMulTermsGo, hds, denList_append,
    ← hsum]
  simp [denList_eq_map]

theorem syntheticPartials_get? {α : Type} (N : Num α) (e : Expr α) (y : String) :
    SAcc.get? (syntheticPartials N e) y =
      if y ∈ e.vars then
        some ((SAcc.get? (symRev N e (mkConst N.one) []) y).getD (mkConst N.zero))
      else none := by
  rw [syntheticPartials_eq_over]
  exact get?_symReadBack N _ e.vars y

theorem syntheticPartials_get?_none {α : Type} (N : Num α) (e : Expr α) {y : String}
    (hy : y ∉ e.vars) : SAcc.get? (syntheticPartials N e) y = none := by
  rw [syntheticPartials_get?, if_neg hy]

theorem syntheticPartials_sound {p : Point ℝ} {e : Expr ℝ} (hwf : WF e) (hs : Supp p e)
    (hd : Dom (valOf p) e) : ∀ y ∈ e.vars, ∃ s,
      SAcc.get? (syntheticPartials realNum e) y = some s ∧ WF s ∧ Supp p s ∧ Dom (valOf p) s ∧
        (∀ d, fwdG realNum p y e = .ok d → den (valOf p) s = d) := by
  intro y hy
  obtain ⟨hok, hval⟩ := symRev_spec p e hwf hs hd (mkConst realNum.one) [] ⟨trivial, trivial, trivial⟩
    (SAcc.All.nil _)
  rw [syntheticPartials_get?, if_pos hy]
  refine ⟨_, rfl, ?_⟩
  have hval : ∀ d, fwdG realNum p y e = .ok d →
      denA (valOf p) (symRev realNum e (mkConst realNum.one) []) y = d := fun d hfd => by
    rw [hval y d hfd, denA_nil, den, realNum_one, one_mul, zero_add]
  unfold denA at hval
  cases hg : SAcc.get? (symRev realNum e (mkConst realNum.one) []) y with
  | none =>
    rw [hg] at hval
    exact ⟨trivial, trivial, trivial, fun d hfd => by rw [← hval d hfd, Option.getD_none, den,
      realNum_zero]⟩
  | some s =>
    rw [hg] at hval
    exact ⟨(hok y s hg).1, (hok y s hg).2.1, (hok y s hg).2.2, hval⟩

theorem syntheticPartials_eval {p : Point ℝ} {e : Expr ℝ} (hwf : WF e) (hs : Supp p e)
    (hd : Dom (valOf p) e) {y : String} {s : Expr ℝ}
    (hget : SAcc.get? (syntheticPartials realNum e) y = some s) :
    evalG realNum p s = fwdG realNum p y e := by
  have hy : y ∈ e.vars := by
    by_contra hy
    rw [syntheticPartials_get?_none realNum e hy] at hget
    cases hget
  obtain ⟨s', hs', h1, h2, h3, h4⟩ := syntheticPartials_sound hwf hs hd y hy
  cases hget.symm.trans hs'
  obtain ⟨d, hfd⟩ := fwd_ok_of (y := y) hwf hs hd
  rw [hfd, ← h4 d hfd]
  exact routes_evalG_ok h1 h2 h3

theorem syntheticPartials_hasDerivAt {p : Point ℝ} {e : Expr ℝ} (hwf : WF e) (hs : Supp p e)
    (hd : Dom (valOf p) e) {y : String} (hy : y ∈ e.vars) : ∃ s,
      SAcc.get? (syntheticPartials realNum e) y = some s ∧
        HasDerivAt (fun t => den (upd (valOf p) y t) e) (den (valOf p) s) (valOf p y) := by
  obtain ⟨s, hget, _, _, _, hval⟩ := syntheticPartials_sound hwf hs hd y hy
  obtain ⟨d, hfd⟩ := fwd_ok_of (y := y) hwf hs hd
  exact ⟨s, hget, hval d hfd ▸ fwdG_hasDerivAt hwf hs hd hfd⟩

/-- `symRev_spec` with `WFA`, `SuppA`, `DomA` separately -/
theorem symRev_spec' (p : Point ℝ) (e : Expr ℝ) (hwf : WF e) (hs : Supp p e)
    (hd : Dom (valOf p) e) (m : Expr ℝ) (acc : SAcc ℝ) (hm1 : WF m) (hm2 : Supp p m)
    (hm3 : Dom (valOf p) m) (ha1 : WFA acc) (ha2 : SuppA p acc) (ha3 : DomA (valOf p) acc) :
    let acc' := symRev realNum e m acc
    WFA acc' ∧ SuppA p acc' ∧ DomA (valOf p) acc' ∧
      ∀ y d, fwdG realNum p y e = .ok d →
        denA (valOf p) acc' y = denA (valOf p) acc y + den (valOf p) m * d := by
  intro acc'
  have h := symRev_spec p e hwf hs hd m acc ⟨hm1, hm2, hm3⟩ ((RevOKA_iff p acc).mpr ⟨ha1, ha2, ha3⟩)
  obtain ⟨h1, h2, h3⟩ := (RevOKA_iff p _).mp h.1
  exact ⟨h1, h2, h3, h.2⟩

theorem routes_syntheticPartials_mem {α : Type} (N : Num α) (e : Expr α) {a : String × Expr α}
    (ha : a ∈ syntheticPartials N e) : SAcc.get? (syntheticPartials N e) a.1 = some a.2 := by
  rw [syntheticPartials_get?]
  simp only [syntheticPartials, List.mem_map] at ha
  obtain ⟨y, hy, rfl⟩ := ha
  simp [hy]

theorem routes_normalizeAll_forall₂ {α : Type} (N : Num α) {acc d : SAcc α} {w : Bool}
    (h : normalizeAll N acc = .ok (d, w)) :
    List.Forall₂ (fun a b => b.1 = a.1 ∧ ∃ w', normalize N a.2 = some (b.2, w')) acc d := by
  induction acc generalizing d w with
  | nil => cases h; exact .nil
  | cons a rest ih =>
    rw [normalizeAll] at h
    obtain ⟨⟨s', w₁⟩, hn, h⟩ := R.bind_eq_ok_iff.mp h
    obtain ⟨⟨rest', w₂⟩, hr, h⟩ := R.bind_eq_ok_iff.mp h
    cases h
    exact .cons ⟨rfl, w₁, liftFuel_eq_ok.mp hn⟩ (ih hr)

theorem routes_forall₂_mem_right {β γ : Type} {R : β → γ → Prop} {l₁ : List β} {l₂ : List γ}
    (h : List.Forall₂ R l₁ l₂) : ∀ b ∈ l₂, ∃ a ∈ l₁, R a b := by
  induction h with
  | nil => intro b hb; cases hb
  | cons hab _ ih =>
    intro b hb
    rcases List.mem_cons.mp hb with rfl | hb
    · exact ⟨_, List.mem_cons_self, hab⟩
    · obtain ⟨a, ha, hr⟩ := ih b hb
      exact ⟨a, List.mem_cons_of_mem _ ha, hr⟩

theorem normalizeAll_get? {α : Type} (N : Num α) : ∀ {acc d : SAcc α} {w : Bool},
    normalizeAll N acc = .ok (d, w) → ∀ y,
      match SAcc.get? acc y with
      | none => SAcc.get? d y = none
      | some s => ∃ s' w', normalize N s = some (s', w') ∧ SAcc.get? d y = some s'
  | [], d, w, h, y => by
    cases h
    rfl
  | (x, s) :: rest, d, w, h, y => by
    obtain ⟨⟨s', w1⟩, hn, h⟩ := R.bind_eq_ok_iff.mp h
    obtain ⟨⟨rest', w2⟩, hr, h⟩ := R.bind_eq_ok_iff.mp h
    cases h
    have ih := normalizeAll_get? N hr y
    rw [SAcc.get?_cons, SAcc.get?_cons]
    by_cases hxy : x = y
    · rw [if_pos hxy, if_pos hxy]
      exact ⟨s', w1, liftFuel_eq_ok.mp hn, rfl⟩
    · rw [if_neg hxy, if_neg hxy]
      exact ih

theorem normalizeAll_refines {e : Expr ℝ} {d : SAcc ℝ} {w : Bool}
    (h : normalizeAll realNum (syntheticPartials realNum e) = .ok (d, w))
    (hok : ∀ y s, SAcc.get? (syntheticPartials realNum e) y = some s →
      NormOK K1FreeAt REDUCTION_STEPS_BOUND NORMALIZE_FUEL s) :
    (∀ y, y ∉ e.vars → SAcc.get? d y = none) ∧
    ∀ y ∈ e.vars, ∃ s s', SAcc.get? (syntheticPartials realNum e) y = some s ∧
      SAcc.get? d y = some s' ∧ Refines s s' := by
  refine ⟨fun y hy => ?_, fun y hy => ?_⟩
  · have := normalizeAll_get? realNum h y
    rw [syntheticPartials_get?_none realNum e hy] at this
    exact this
  · have := normalizeAll_get? realNum h y
    have hget := syntheticPartials_get? realNum e y
    rw [if_pos hy] at hget
    rw [hget] at this
    obtain ⟨s', w', hn, hd⟩ := this
    exact ⟨_, s', hget, hd, normalize_refines rule_refines _ _ _ s' w' (hok y _ hget) hn⟩

theorem normalizeAll_entries_eval {p : Point ℝ} {e : Expr ℝ} (hwf : WF e) (hs : Supp p e)
    (hd : Dom (valOf p) e) {d : SAcc ℝ} {w : Bool}
    (h : normalizeAll realNum (syntheticPartials realNum e) = .ok (d, w))
    (hok : ∀ y s, SAcc.get? (syntheticPartials realNum e) y = some s →
      NormOK K1FreeAt REDUCTION_STEPS_BOUND NORMALIZE_FUEL s) :
    ∀ b ∈ d, evalG realNum p b.2 = fwdG realNum p b.1 e := by
  intro b hb
  obtain ⟨a, ha, hba, w', hnorm⟩ :=
    routes_forall₂_mem_right (routes_normalizeAll_forall₂ realNum h) b hb
  have hget := routes_syntheticPartials_mem realNum e ha
  have href : Refines a.2 b.2 := normalize_refines rule_refines _ _ _ b.2 w' (hok _ _ hget) hnorm
  obtain ⟨dv, hfd⟩ := fwd_ok_of (y := a.1) hwf hs hd
  rw [hba, hfd]
  exact href.eval (SAccWF_get? (WF_syntheticPartials e hwf) hget) p dv
    (by rw [syntheticPartials_eval hwf hs hd hget, hfd])

theorem normalizeAll_eval {p : Point ℝ} {e : Expr ℝ} (hwf : WF e) (hs : Supp p e)
    (hd : Dom (valOf p) e) {d : SAcc ℝ} {w : Bool}
    (h : normalizeAll realNum (syntheticPartials realNum e) = .ok (d, w))
    (hok : ∀ y s, SAcc.get? (syntheticPartials realNum e) y = some s →
      NormOK K1FreeAt REDUCTION_STEPS_BOUND NORMALIZE_FUEL s)
    {y : String} {s' : Expr ℝ} (hget : SAcc.get? d y = some s') :
    evalG realNum p s' = fwdG realNum p y e :=
  normalizeAll_entries_eval hwf hs hd h hok _ (SAcc.mem_of_get? hget)

/-- `Differential(e, compute_early=True).component_at(x, point)` at a supplied point: the stored
component if the name is a key, otherwise a late `Partial` — forward mode's answer either way (the
hypothesis about the rewriter is needed on the domain only) -/
theorem routes_componentAt_early {p : Point ℝ} {e : Expr ℝ} (x : String) (hwf : WF e)
    (hs : Supp p e)
    (hK1 : Dom (valOf p) e → ∀ y s, SAcc.get? (syntheticPartials realNum e) y = some s →
      NormOK K1FreeAt REDUCTION_STEPS_BOUND NORMALIZE_FUEL s)
    {D : DifferentialObj ℝ} {w : Bool} (hnew : DifferentialObj.new realNum e true = .ok (D, w)) :
    D.componentAt realNum x p = fwdG realNum p x e := by
  obtain ⟨d, hn, rfl⟩ := differentialNew_early realNum e hnew
  rw [DifferentialObj.componentAt_stored]
  cases hg : SAcc.get? d x with
  | none => rfl
  | some s => exact routes_at_stored x hwf hs fun hd => normalizeAll_eval hwf hs hd hn (hK1 hd) hg

theorem differential_early_componentAt {p : Point ℝ} {e : Expr ℝ} (hwf : WF e) (hs : Supp p e)
    (_ : Dom (valOf p) e) {D : DifferentialObj ℝ} {w : Bool}
    (hnew : DifferentialObj.new realNum e true = .ok (D, w))
    (hok : ∀ y s, SAcc.get? (syntheticPartials realNum e) y = some s →
      NormOK K1FreeAt REDUCTION_STEPS_BOUND NORMALIZE_FUEL s) (y : String) :
    D.componentAt realNum y p = fwdG realNum p y e :=
  routes_componentAt_early y hwf hs (fun _ => hok) hnew

/-! ### a worked run (non-vacuity of the hypotheses about the rewriter)

`e = x · y` : `_synthetic_partials()` stores `Multiply(Constant(1), y)` for `x` and
`Multiply(Constant(1), x)` for `y`; the rewriter takes four steps on each (flag, flag, `mulOnes`,
flag), none of them the K1 rule, and the normal-form pass returns the bare variable. -/

theorem symrevEx_partials (x y : String) (hxy : x ≠ y) :
    syntheticPartials realNum (mkMul [mkVar x, mkVar y] : Expr ℝ) =
      [(x, mkMul [mkConst 1, mkVar y]), (y, mkMul [mkConst 1, mkVar x])] := by
  have h1 : (x == y) = false := by simpa using hxy
  have h3 : ¬ y = x := fun h => hxy h.symm
  simp [syntheticPartials, symRev, symRevMul, SAcc.addTo, SAcc.get?, SAcc.set, vars, varsAux,
    varsAuxList, h1, h3, hxy]

theorem symrevEx_steps (y : String) :
    ReplaySteps realNum (mkMul [mkConst 1, mkVar y]) [.flag, .flag, .rule .mulOnes, .flag]
      (.mul .reduced [.var .reduced y]) :=
  (isCtx_mul [] _ rfl).const 1 (by simp [vars, varsAux, varsAuxList])
    |>.append ((ReplaySteps.var y).congr (isCtx_mul [_] [] rfl))
    |>.append (.rule .mulOnes rfl (by simp [vars, varsAux, varsAuxList]) (stepF_one_mul_var y))
    |>.append (.flag rfl (by simp [vars, varsAux, varsAuxList]) rfl)

theorem symrevEx_normOK (y : String) :
    NormOK K1FreeAt REDUCTION_STEPS_BOUND NORMALIZE_FUEL (mkMul [mkConst 1, mkVar y] : Expr ℝ) :=
  (symrevEx_steps y).normOK (by simp [AllFlagged, AllFlaggedList]) (by decide) (by decide) _

theorem symrevEx_normalize (y : String) :
    normalize realNum (mkMul [mkConst 1, mkVar y] : Expr ℝ) = some (mkVar y, false) :=
  (symrevEx_steps y).normalize rfl (by decide) rfl

theorem symrevEx_differential (x y : String) (hxy : x ≠ y) :
    DifferentialObj.new realNum (mkMul [mkVar x, mkVar y] : Expr ℝ) true =
      .ok (⟨mkMul [mkVar x, mkVar y], some [(x, mkVar y), (y, mkVar x)]⟩, false) := by
  simp [DifferentialObj.new, symrevEx_partials x y hxy, normalizeAll, symrevEx_normalize, liftFuel,
    rmonad]

theorem symrevEx_hok (x y : String) (hxy : x ≠ y) : ∀ z s,
    SAcc.get? (syntheticPartials realNum (mkMul [mkVar x, mkVar y] : Expr ℝ)) z = some s →
      NormOK K1FreeAt REDUCTION_STEPS_BOUND NORMALIZE_FUEL s := by
  rw [symrevEx_partials x y hxy]
  exact SAcc.All.of_mem (List.forall_mem_cons.mpr
    ⟨symrevEx_normOK y, List.forall_mem_singleton.mpr (symrevEx_normOK x)⟩)

end Smooth
