/-
Proofs/NoEvenRoot — a syntactic condition under which the recorded defect K1 cannot occur.

`NoEvenRoot e`: every `NthRoot` node of `e`, at any depth, has an odd degree.  (Every expression
without `NthRoot` nodes qualifies: polynomials, rational functions, exp/log/trig/power expressions;
and so does every expression whose roots are all odd.)

It is a condition on the degrees alone (`ParamOK oddRoots`, Proofs/Param), and odd numbers are closed
under what the rules do to root degrees (products, quotients by a gcd).  Hence every one of the 46
rewrite rules, one step of `_take_reduction_step`, the `_fully_reduce` loop for every budget, and the
normal-form pass / `_normalize` for every budget and fuel keep it.  Generic in the number record `N`.
-/
import Smooth.Proofs.Param

namespace Smooth
open Expr
variable {α : Type}

/-- the node itself is not an `NthRoot` of even degree -/
def OddRootAt : Expr α → Prop
  | .nroot _ _ n => n % 2 = 1
  | _ => True

/-- no even root: every `NthRoot` node of `e` (at any depth; `Sub s e` = "`s` is a node of `e`")
has an odd degree -/
def NoEvenRoot (e : Expr α) : Prop :=
  ∀ f u n, Sub (.nroot f u n) e → n % 2 = 1

/-- only the degrees of roots are restricted -/
def oddRoots : ParamSpec α where
  npow _ := True
  nroot n := n % 2 = 1
  exp _ := True
  log _ := True

theorem ner_iff_paramOK (e : Expr α) : NoEvenRoot e ↔ ParamOK oddRoots e :=
  ⟨fun h s hs => by cases s <;> first | trivial | exact h _ _ _ hs, fun h _ _ _ hs => h _ hs⟩

theorem ner_eq_paramOK : @NoEvenRoot α = ParamOK oddRoots :=
  funext fun e => propext (ner_iff_paramOK e)

theorem ner_iff (e : Expr α) :
    NoEvenRoot e ↔ OddRootAt e ∧ ∀ c ∈ children e, NoEvenRoot c := by
  rw [ner_eq_paramOK]
  exact everywhere_iff.trans (and_congr_left' (by cases e <;> exact Iff.rfl))

theorem NoEvenRoot.child {e c : Expr α} (h : NoEvenRoot e) (hc : c ∈ children e) : NoEvenRoot c :=
  fun f u n hs => h f u n (Sub.child hc hs)

section Nodes
variable (f : Flags) (u l r : Expr α) (as : List (Expr α)) (n : Nat) (b v : α) (x : String)

@[simp] theorem ner_const : NoEvenRoot (.const f v) := by
  rw [ner_eq_paramOK]; exact paramOK_const _ f v
@[simp] theorem ner_var : NoEvenRoot (.var f x : Expr α) := by
  rw [ner_eq_paramOK]; exact paramOK_var _ f x
@[simp] theorem ner_add : NoEvenRoot (.add f as) ↔ ∀ a ∈ as, NoEvenRoot a := by
  rw [ner_eq_paramOK]; exact paramOK_add ..
@[simp] theorem ner_mul : NoEvenRoot (.mul f as) ↔ ∀ a ∈ as, NoEvenRoot a := by
  rw [ner_eq_paramOK]; exact paramOK_mul ..
@[simp] theorem ner_minus : NoEvenRoot (.minus f l r) ↔ NoEvenRoot l ∧ NoEvenRoot r := by
  rw [ner_eq_paramOK]; exact paramOK_minus ..
@[simp] theorem ner_div : NoEvenRoot (.div f l r) ↔ NoEvenRoot l ∧ NoEvenRoot r := by
  rw [ner_eq_paramOK]; exact paramOK_div ..
@[simp] theorem ner_pow : NoEvenRoot (.pow f l r) ↔ NoEvenRoot l ∧ NoEvenRoot r := by
  rw [ner_eq_paramOK]; exact paramOK_pow ..
@[simp] theorem ner_neg : NoEvenRoot (.neg f u) ↔ NoEvenRoot u := by
  rw [ner_eq_paramOK]; exact paramOK_neg ..
@[simp] theorem ner_recip : NoEvenRoot (.recip f u) ↔ NoEvenRoot u := by
  rw [ner_eq_paramOK]; exact paramOK_recip ..
@[simp] theorem ner_npow : NoEvenRoot (.npow f u n) ↔ NoEvenRoot u := by
  rw [ner_eq_paramOK]; exact (paramOK_npow ..).trans (and_iff_right trivial)
@[simp] theorem ner_nroot : NoEvenRoot (.nroot f u n) ↔ n % 2 = 1 ∧ NoEvenRoot u := by
  rw [ner_eq_paramOK]; exact paramOK_nroot ..
@[simp] theorem ner_exp : NoEvenRoot (.exp f u b) ↔ NoEvenRoot u := by
  rw [ner_eq_paramOK]; exact (paramOK_exp ..).trans (and_iff_right trivial)
@[simp] theorem ner_log : NoEvenRoot (.log f u b) ↔ NoEvenRoot u := by
  rw [ner_eq_paramOK]; exact (paramOK_log ..).trans (and_iff_right trivial)
@[simp] theorem ner_cos : NoEvenRoot (.cos f u) ↔ NoEvenRoot u := by
  rw [ner_eq_paramOK]; exact paramOK_cos ..
@[simp] theorem ner_sin : NoEvenRoot (.sin f u) ↔ NoEvenRoot u := by
  rw [ner_eq_paramOK]; exact paramOK_sin ..

end Nodes

theorem NoEvenRoot.nroot_odd {f : Flags} {u : Expr α} {n : Nat} (h : NoEvenRoot (.nroot f u n)) :
    n % 2 = 1 :=
  ((ner_nroot ..).mp h).1

@[simp] theorem ner_setFlags (g : Flags) (e : Expr α) : NoEvenRoot (e.setFlags g) ↔ NoEvenRoot e := by
  rw [ner_eq_paramOK]; exact paramOK_setFlags ..

theorem ner_fresh (e : Expr α) : NoEvenRoot e.fresh ↔ NoEvenRoot e := by
  rw [ner_eq_paramOK]
  exact everywhere_fresh (fun s => by cases s <;> exact Iff.rfl) e

theorem ner_freshList : ∀ es : List (Expr α),
    (∀ a ∈ freshList es, NoEvenRoot a) ↔ ∀ a ∈ es, NoEvenRoot a := by
  intro es
  rw [freshList_eq_map, List.forall_mem_map]
  exact forall₂_congr fun a _ => ner_fresh a

theorem ner_odd_mul {n m : Nat} (hn : n % 2 = 1) (hm : m % 2 = 1) : (n * m) % 2 = 1 := by
  rw [Nat.mul_mod, hn, hm]

/-- an odd number divided by any of its divisors stays odd (`npowRoot` divides the degree by a gcd) -/
theorem ner_odd_div_gcd {m : Nat} (n : Nat) (hm : m % 2 = 1) : (m / Nat.gcd m n) % 2 = 1 := by
  have h := Nat.mul_mod (m / Nat.gcd m n) (Nat.gcd m n) 2
  rw [Nat.div_mul_cancel (Nat.gcd_dvd_left m n), hm] at h
  rcases Nat.mod_two_eq_zero_or_one (m / Nat.gcd m n) with h0 | h0
  · simp [h0] at h
  · exact h0

theorem oddRoots_closed (N : Num α) : (oddRoots : ParamSpec α).Closed N where
  npow_mul _ _ := trivial
  nroot_mul := ner_odd_mul
  npow_div_gcd _ _ := trivial
  nroot_div_gcd := ner_odd_div_gcd
  npow_toNat _ := trivial
  exp_base _ _ := trivial

theorem ner_driverClosed (N : Num α) : DriverClosed N NoEvenRoot :=
  ner_eq_paramOK ▸ (oddRoots_closed N).driverClosed

/-- every one of the 46 rules keeps the expression free of even roots: `mulNRoots` builds one
root per group, of the degree of a member; `npowRoot` divides the degree by a gcd; `nrootRoot`
multiplies two degrees; the others copy degrees or build no root -/
theorem ner_rule (N : Num α) (r : RuleId) {e e' : Expr α} (h : r.apply N e = some e')
    (hs : NoEvenRoot e) : NoEvenRoot e' :=
  (ner_driverClosed N).rule h hs

theorem ner_stepF (N : Num α) (e : Expr α) (hs : NoEvenRoot e) : NoEvenRoot (stepF N e).1 :=
  (ner_driverClosed N).stepF hs

theorem ner_stepFirstUnreduced (N : Num α) :
    ∀ (as : List (Expr α)) (p : List (Expr α) × StepEvent), stepFirstUnreduced N as = some p →
      (∀ a ∈ as, NoEvenRoot a) → ∀ a ∈ p.1, NoEvenRoot a :=
  fun _ _ h hs => (ner_driverClosed N).stepFirstUnreduced h hs

theorem ner_fullyReduceWith (N : Num α) (bound : Nat) {e : Expr α} (hs : NoEvenRoot e) :
    NoEvenRoot (fullyReduceWith N bound e).expr :=
  (ner_driverClosed N).fullyReduceWith bound hs

theorem ner_fullyReduce (N : Num α) {e : Expr α} (hs : NoEvenRoot e) :
    NoEvenRoot (fullyReduce N e).expr :=
  ner_fullyReduceWith N REDUCTION_STEPS_BOUND hs

theorem ner_normalizeF (N : Num α) (bound fuel : Nat) {e e' : Expr α} {w : Bool}
    (hs : NoEvenRoot e) (h : normalizeF N bound fuel e = some (e', w)) : NoEvenRoot e' :=
  (ner_driverClosed N).normalizeF bound fuel hs h

theorem ner_normReducedF (N : Num α) (bound fuel : Nat) {e e' : Expr α} {w : Bool}
    (hs : NoEvenRoot e) (h : normReducedF N bound fuel e = some (e', w)) : NoEvenRoot e' :=
  (ner_driverClosed N).normReducedF bound fuel hs h

theorem ner_normalize (N : Num α) {e e' : Expr α} {w : Bool} (hs : NoEvenRoot e)
    (h : normalize N e = some (e', w)) : NoEvenRoot e' :=
  ner_normalizeF N _ _ hs h

end Smooth
