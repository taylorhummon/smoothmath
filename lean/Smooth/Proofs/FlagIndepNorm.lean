/-
Proofs/FlagIndepNorm — the reduction flags never change the result of `_normalize` either.

`_normalize()` = `_fully_reduce()._normalize_fully_reduced()`, and `_normalize_fully_reduced` of a sum
or product calls the full `_normalize()` of every term (objects that carry flags from the run that
produced them).  From two soundly flagged copies of one tree, with fuel and budgets under which
neither logs the warning, `normalizeF` returns the same expression — literally, flags included (the
normal form is built from fresh nodes only).  Generic in the number record `N`.
-/
import Smooth.Proofs.FlagIndep

namespace Smooth
open Expr
variable {α : Type}

theorem fi_mapM_agree (full₁ full₂ : Expr α → Option (Expr α × Bool)) :
    ∀ (xs₁ xs₂ : List (Expr α)) (t₁ t₂ : List (Expr α × Bool)),
      xs₁.map fresh = xs₂.map fresh →
      (∀ x₁ ∈ xs₁, ∀ x₂ ∈ xs₂, x₁.fresh = x₂.fresh → ∀ r₁ r₂,
        full₁ x₁ = some (r₁, false) → full₂ x₂ = some (r₂, false) → r₁ = r₂) →
      mapM? full₁ xs₁ = some t₁ → mapM? full₂ xs₂ = some t₂ →
      t₁.any (·.2) = false → t₂.any (·.2) = false → t₁.map (·.1) = t₂.map (·.1)
  | [], [], t₁, t₂, _, _, h₁, h₂, _, _ => by
    simp only [mapM?, Option.some.injEq] at h₁ h₂
    subst h₁ h₂
    rfl
  | [], _ :: _, _, _, heq, _, _, _, _, _ => by simp at heq
  | _ :: _, [], _, _, heq, _, _, _, _, _ => by simp at heq
  | x₁ :: xs₁, x₂ :: xs₂, t₁, t₂, heq, hp, h₁, h₂, a₁, a₂ => by
    obtain ⟨c₁, cs₁, hc₁, hcs₁, rfl⟩ := mapM?_cons_eq_some.mp h₁
    obtain ⟨c₂, cs₂, hc₂, hcs₂, rfl⟩ := mapM?_cons_eq_some.mp h₂
    simp only [List.map_cons, List.cons.injEq] at heq
    simp only [List.any_cons, Bool.or_eq_false_iff] at a₁ a₂
    obtain ⟨r₁, w₁⟩ := c₁
    obtain ⟨r₂, w₂⟩ := c₂
    simp only at a₁ a₂
    have hr : r₁ = r₂ :=
      hp x₁ List.mem_cons_self x₂ List.mem_cons_self heq.1 r₁ r₂
        (by rw [hc₁, a₁.1]) (by rw [hc₂, a₂.1])
    have ht := fi_mapM_agree full₁ full₂ xs₁ xs₂ cs₁ cs₂ heq.2
      (fun y₁ hy₁ y₂ hy₂ => hp y₁ (List.mem_cons_of_mem _ hy₁) y₂ (List.mem_cons_of_mem _ hy₂))
      hcs₁ hcs₂ a₁.2 a₂.2
    simp only [List.map_cons, hr, ht]

/-- `_normalize_fully_reduced` of a sum or product: `sel` picks the `Negation`s / `Reciprocal`s,
the two groups are normalised term by term, `out` puts the results together -/
theorem fi_nary_agree (N : Num α) (sel : Expr α → Option (Expr α))
    (hsel : ∀ e, sel e.fresh = (sel e).map fresh)
    (hsub : ∀ a u, sel a = some u → u ∈ children a)
    (out : List (Expr α) → List (Expr α) → Expr α)
    (full₁ full₂ : Expr α → Option (Expr α × Bool))
    (hfull : ∀ x₁ x₂ r₁ r₂, FlagsSound N x₁ → FlagsSound N x₂ → x₁.fresh = x₂.fresh →
      full₁ x₁ = some (r₁, false) → full₂ x₂ = some (r₂, false) → r₁ = r₂)
    (as₁ as₂ : List (Expr α)) (hs₁ : ∀ a ∈ as₁, FlagsSound N a) (hs₂ : ∀ a ∈ as₂, FlagsSound N a)
    (heq : as₁.map fresh = as₂.map fresh) {r₁ r₂ : Expr α}
    (h₁ : (match mapM? full₁ (as₁.filter fun t => (sel t).isNone), mapM? full₁ (as₁.filterMap sel) with
      | some t1, some t2 => some (out (t1.map (·.1)) (t2.map (·.1)), t1.any (·.2) || t2.any (·.2))
      | _, _ => none) = some (r₁, false))
    (h₂ : (match mapM? full₂ (as₂.filter fun t => (sel t).isNone), mapM? full₂ (as₂.filterMap sel) with
      | some t1, some t2 => some (out (t1.map (·.1)) (t2.map (·.1)), t1.any (·.2) || t2.any (·.2))
      | _, _ => none) = some (r₂, false)) : r₁ = r₂ := by
  have hfilter : ∀ as : List (Expr α),
      (as.filter fun t => (sel t).isNone).map fresh = (as.map fresh).filter fun t => (sel t).isNone := by
    intro as
    simp only [List.filter_map, Function.comp_def, hsel, Option.isNone_map]
  have hfilterMap : ∀ as : List (Expr α),
      (as.filterMap sel).map fresh = (as.map fresh).filterMap sel := by
    intro as
    simp only [List.filterMap_map, List.map_filterMap, Function.comp_def, hsel]
  split at h₁
  · rename_i t1 t2 ht1 ht2
    split at h₂
    · rename_i t1' t2' ht1' ht2'
      simp only [Option.some.injEq, Prod.mk.injEq, Bool.or_eq_false_iff] at h₁ h₂
      obtain ⟨rfl, w⟩ := h₁
      obtain ⟨rfl, w'⟩ := h₂
      rw [fi_mapM_agree full₁ full₂ _ _ t1 t1' (by rw [hfilter, hfilter, heq])
          (fun x₁ hx₁ x₂ hx₂ hx r₁ r₂ => hfull x₁ x₂ r₁ r₂ (hs₁ _ (List.mem_filter.mp hx₁).1)
            (hs₂ _ (List.mem_filter.mp hx₂).1) hx) ht1 ht1' w.1 w'.1,
        fi_mapM_agree full₁ full₂ _ _ t2 t2' (by rw [hfilterMap, hfilterMap, heq])
          (fun x₁ hx₁ x₂ hx₂ hx r₁ r₂ => by
            obtain ⟨a₁, ha₁, hu₁⟩ := List.mem_filterMap.mp hx₁
            obtain ⟨a₂, ha₂, hu₂⟩ := List.mem_filterMap.mp hx₂
            exact hfull x₁ x₂ r₁ r₂ ((hs₁ a₁ ha₁).child (hsub a₁ x₁ hu₁))
              ((hs₂ a₂ ha₂).child (hsub a₂ x₂ hu₂)) hx) ht2 ht2' w.2 w'.2]
    · cases h₂
  · cases h₁

theorem fi_fresh_eq_add {f : Flags} {as : List (Expr α)} {e : Expr α}
    (h : (Expr.add f as).fresh = e.fresh) :
    ∃ g as', e = .add g as' ∧ as.map fresh = as'.map fresh := by
  have h' := congrArg asAdd h
  rw [ff_asAdd_fresh, ff_asAdd_fresh] at h'
  obtain ⟨as', h1, h2⟩ := Option.map_eq_some_iff.mp h'.symm
  obtain ⟨g, rfl⟩ := asAdd_some_iff.mp h1
  exact ⟨g, as', rfl, h2.symm⟩

theorem fi_fresh_eq_mul {f : Flags} {as : List (Expr α)} {e : Expr α}
    (h : (Expr.mul f as).fresh = e.fresh) :
    ∃ g as', e = .mul g as' ∧ as.map fresh = as'.map fresh := by
  have h' := congrArg asMul h
  rw [ff_asMul_fresh, ff_asMul_fresh] at h'
  obtain ⟨as', h1, h2⟩ := Option.map_eq_some_iff.mp h'.symm
  obtain ⟨g, rfl⟩ := asMul_some_iff.mp h1
  exact ⟨g, as', rfl, h2.symm⟩

/-- two soundly flagged copies of one tree, warning-free results of `g₁` (with fuel `f₁`) and `g₂`
(with any fuel): the results are the same expression -/
def NormAgree (N : Num α) (g₁ g₂ : Nat → Expr α → Option (Expr α × Bool)) (f₁ : Nat) : Prop :=
  ∀ f₂ e₁ e₂ r₁ r₂, FlagsSound N e₁ → FlagsSound N e₂ → e₁.fresh = e₂.fresh →
    g₁ f₁ e₁ = some (r₁, false) → g₂ f₂ e₂ = some (r₂, false) → r₁ = r₂

theorem fi_normalize_step (N : Num α) (b₁ b₂ n : Nat)
    (B : NormAgree N (normReducedF N b₁) (normReducedF N b₂) n) :
    NormAgree N (normalizeF N b₁) (normalizeF N b₂) (n + 1) := by
  intro f₂ e₁ e₂ r₁ r₂ s₁ s₂ heq h₁ h₂
  cases f₂ with
  | zero => simp [normalizeF] at h₂
  | succ m =>
    unfold normalizeF at h₁ h₂
    simp only at h₁ h₂
    split at h₁
    · rename_i x₁ w₁ hn₁
      split at h₂
      · rename_i x₂ w₂ hn₂
        simp only [Option.some.injEq, Prod.mk.injEq, Bool.or_eq_false_iff] at h₁ h₂
        obtain ⟨rfl, rfl, hw₁⟩ := h₁
        obtain ⟨rfl, rfl, hw₂⟩ := h₂
        exact B m _ _ _ _ ((fi_fullyReduceLoop_reach N b₁ e₁ 0 [] s₁).2 hw₁)
          ((fi_fullyReduceLoop_reach N b₂ e₂ 0 [] s₂).2 hw₂)
          (fullyReduceWith_flag_independent N s₁ s₂ heq b₁ b₂ hw₁ hw₂) hn₁ hn₂
      · cases h₂
    · cases h₁

theorem fi_normReduced_step (N : Num α) (b₁ b₂ n : Nat)
    (A : NormAgree N (normalizeF N b₁) (normalizeF N b₂) n)
    (B : NormAgree N (normReducedF N b₁) (normReducedF N b₂) n) :
    NormAgree N (normReducedF N b₁) (normReducedF N b₂) (n + 1) := by
  intro f₂ e₁ e₂ r₁ r₂ s₁ s₂ heq h₁ h₂
  cases f₂ with
  | zero => simp [normReducedF] at h₂
  | succ m =>
    cases hn : isNaryNode e₁
    · -- the node is rebuilt around its normalised operands
      have hn₂ : isNaryNode e₂ = false := by
        rw [← ff_isNaryNode_fresh, ← heq, ff_isNaryNode_fresh, hn]
      obtain ⟨cs₁, hcs₁, rfl, hw₁⟩ := (normReducedF_node N b₁ n e₁ hn).mp h₁
      obtain ⟨cs₂, hcs₂, rfl, hw₂⟩ := (normReducedF_node N b₂ m e₂ hn₂).mp h₂
      have hkids : (children e₁).map fresh = (children e₂).map fresh := by
        rw [← ff_children_fresh, ← ff_children_fresh, heq]
      rw [fi_mapM_agree _ _ _ _ cs₁ cs₂ hkids (fun x₁ hx₁ x₂ hx₂ hx r₁ r₂ =>
          B m x₁ x₂ r₁ r₂ (s₁.child hx₁) (s₂.child hx₂) hx) hcs₁ hcs₂ hw₁.symm hw₂.symm,
        ← ff_rebuild_fresh_left e₁, heq, ff_rebuild_fresh_left]
    · cases e₁ <;> simp only [isNaryNode, reduceCtorEq] at hn
      case add f as =>
        obtain ⟨g, as', rfl, has⟩ := fi_fresh_eq_add heq
        rw [normReducedF_add] at h₁ h₂
        exact fi_nary_agree N asNeg ff_asNeg_fresh
          (fun a u h => by obtain ⟨_, rfl⟩ := asNeg_some_iff.mp h; exact List.mem_cons_self)
          (addOut N) _ _ (fun x₁ x₂ r₁ r₂ => A m x₁ x₂ r₁ r₂) as as' (fun _ h => s₁.child h)
          (fun _ h => s₂.child h) has h₁ h₂
      case mul f as =>
        obtain ⟨g, as', rfl, has⟩ := fi_fresh_eq_mul heq
        rw [normReducedF_mul] at h₁ h₂
        exact fi_nary_agree N asRecip ff_asRecip_fresh
          (fun a u h => by obtain ⟨_, rfl⟩ := asRecip_some_iff.mp h; exact List.mem_cons_self)
          (mulOut N) _ _ (fun x₁ x₂ r₁ r₂ => A m x₁ x₂ r₁ r₂) as as' (fun _ h => s₁.child h)
          (fun _ h => s₂.child h) has h₁ h₂

theorem fi_norm_agree (N : Num α) (b₁ b₂ : Nat) :
    ∀ n, NormAgree N (normalizeF N b₁) (normalizeF N b₂) n ∧
      NormAgree N (normReducedF N b₁) (normReducedF N b₂) n
  | 0 => by
    constructor
    · intro f₂ e₁ e₂ r₁ r₂ _ _ _ h₁ _; simp [normalizeF] at h₁
    · intro f₂ e₁ e₂ r₁ r₂ _ _ _ h₁ _; simp [normReducedF] at h₁
  | n + 1 => by
    obtain ⟨A, B⟩ := fi_norm_agree N b₁ b₂ n
    exact ⟨fi_normalize_step N b₁ b₂ n B, fi_normReduced_step N b₁ b₂ n A B⟩

/-- C09, reduction flags, `_normalize`.  Two soundly flagged copies of one tree; any fuel and
budgets with which neither call logs the warning: `_normalize` returns the same expression. -/
theorem normalizeF_flag_independent (N : Num α) {e₁ e₂ : Expr α} (h₁ : FlagsSound N e₁)
    (h₂ : FlagsSound N e₂) (heq : e₁.fresh = e₂.fresh) (b₁ b₂ f₁ f₂ : Nat) (r₁ r₂ : Expr α)
    (n₁ : normalizeF N b₁ f₁ e₁ = some (r₁, false))
    (n₂ : normalizeF N b₂ f₂ e₂ = some (r₂, false)) : r₁ = r₂ :=
  (fi_norm_agree N b₁ b₂ f₁).1 f₂ e₁ e₂ r₁ r₂ h₁ h₂ heq n₁ n₂

end Smooth
