/-
Proofs/ObjHistory — histories of calls on persistent derivative objects (C09 for the object layer).

A `Partial` has one piece of mutable state, `_synthetic_partial` (`PartialObj.syn`); users keep such
objects and call `.at(point)` / `.as_expression()` many times in any order.  The operations (`POp`),
what a call returns (`POut`), one call (`PartialObj.step`) and a whole history (`PartialObj.run`) are
computable and generic in the number record.  The state invariant `OhInv` (the state is `none` or the
one normalised symbolic partial) holds for every number instance; over the reals every answer is the
answer of a fresh object (`POut.MemoOf`: equal, or the same expression without the warning the fresh
object would log), on the domain outside K1 and off it.  `Derivative` reduces to its `Partial`;
`Differential` has no state.  Lemmas about histories carry the prefix `oh_`.
-/
import Smooth.Proofs.Routes
import Smooth.Proofs.RoutesRun

namespace Smooth
open Classical Expr

section defs
variable {α : Type}

/-- a call on a `Partial`: `.at(point)` or `.as_expression()` -/
inductive POp (α : Type) where
  | at (p : Point α)
  | asExpr

/-- what a call returned: a number (or an error), or an expression together with "a warning was
logged during this call" (or an error) -/
inductive POut (α : Type) where
  | num (r : R α)
  | expr (r : R (Expr α × Bool))

def POut.forget : POut α → POut α
  | .num r => .num r
  | .expr r => .expr (r.map fun sw => (sw.1, false))

/-- one call: the next state of the object and what the call returned.  A failing
`as_expression()` (the rewriter ran out of fuel) leaves the state unchanged. -/
def PartialObj.step (N : Num α) (P : PartialObj α) : POp α → PartialObj α × POut α
  | .at p => (P, .num (P.at N p))
  | .asExpr =>
    match P.asExpression N with
    | .ok (s, P', w) => (P', .expr (.ok (s, w)))
    | .error err => (P, .expr (.error err))

/-- a history of calls: the final state and the transcript of answers -/
def PartialObj.run (N : Num α) (P : PartialObj α) : List (POp α) → PartialObj α × List (POut α)
  | [] => (P, [])
  | o :: ops =>
    ((PartialObj.run N (P.step N o).1 ops).1, (P.step N o).2 :: (PartialObj.run N (P.step N o).1 ops).2)

/-- what a fresh (late, never used) `Partial(e, x)` answers to the call `o` -/
def PartialObj.freshAnswer (N : Num α) (e : Expr α) (x : String) (o : POp α) : POut α :=
  ((PartialObj.mk e x none).step N o).2

/-- `out` is the answer of a fresh object, or the memoised form of it: the same expression, no
warning (a fresh object may log the warning while it normalises; a memoised answer never does) -/
def POut.MemoOf (fresh out : POut α) : Prop :=
  out = fresh ∨ ∃ s w, fresh = .expr (.ok (s, w)) ∧ out = .expr (.ok (s, false))

/-- the state invariant: the original and the variable never change; the stored expression is
absent or it is the normalised symbolic partial that `_retrieve_synthetic_partial` computes -/
def OhInv (N : Num α) (e : Expr α) (x : String) (P : PartialObj α) : Prop :=
  P = ⟨e, x, none⟩ ∨ ∃ s w, retrieveSyntheticPartial N e x = .ok (s, w) ∧ P = ⟨e, x, some s⟩

/-- a call on a `Derivative`: `.at(point)`, `.at(number)`, `.as_expression()` -/
inductive DOp (α : Type) where
  | at (p : Point α)
  | atNumber (t : α)
  | asExpr

/-- the call the `Derivative` in the variable `x` forwards to its `Partial` -/
def DOp.toPOp (x : String) : DOp α → POp α
  | .at p => .at p
  | .atNumber t => .at [(x, t)]
  | .asExpr => .asExpr

def DerivativeObj.step (N : Num α) (D : DerivativeObj α) : DOp α → DerivativeObj α × POut α
  | .at p => (D, .num (D.at N p))
  | .atNumber t => (D, .num (D.atNumber N t))
  | .asExpr =>
    match D.asExpression N with
    | .ok (s, D', w) => (D', .expr (.ok (s, w)))
    | .error err => (D, .expr (.error err))

def DerivativeObj.run (N : Num α) (D : DerivativeObj α) :
    List (DOp α) → DerivativeObj α × List (POut α)
  | [] => (D, [])
  | o :: ops =>
    ((DerivativeObj.run N (D.step N o).1 ops).1,
      (D.step N o).2 :: (DerivativeObj.run N (D.step N o).1 ops).2)

/-- what a fresh late `Derivative(e)` (single variable `x`) answers -/
def DerivativeObj.freshAnswer (N : Num α) (e : Expr α) (x : String) (o : DOp α) : POut α :=
  ((DerivativeObj.mk e x ⟨e, x, none⟩).step N o).2

def OhDInv (N : Num α) (e : Expr α) (x : String) (D : DerivativeObj α) : Prop :=
  D.orig = e ∧ D.x = x ∧ OhInv N e x D.partial_

/-- a query on a `Differential`: `.component(x)`, `.component_at(x, p)`, `.at(p)`,
`.at(p).component(x)`.  None of the model's functions returns a new state: the Python object has no
attribute that is assigned after `__init__`. -/
inductive FOp (α : Type) where
  | component (x : String)
  | componentAt (x : String) (p : Point α)
  | at (p : Point α)
  | atComponent (x : String) (p : Point α)

inductive FOut (α : Type) where
  | partial_ (r : R (PartialObj α × Bool))
  | num (r : R α)
  | located (r : R (LocatedObj α))

def DifferentialObj.answer (N : Num α) (D : DifferentialObj α) : FOp α → FOut α
  | .component x => .partial_ (D.component N x)
  | .componentAt x p => .num (D.componentAt N x p)
  | .at p => .located (D.at N p)
  | .atComponent x p => .num (do let L ← D.at N p; pure (L.component N x))

def DifferentialObj.step (N : Num α) (D : DifferentialObj α) (o : FOp α) :
    DifferentialObj α × FOut α := (D, D.answer N o)

def DifferentialObj.run (N : Num α) (D : DifferentialObj α) :
    List (FOp α) → DifferentialObj α × List (FOut α)
  | [] => (D, [])
  | o :: ops =>
    ((DifferentialObj.run N (D.step N o).1 ops).1,
      (D.step N o).2 :: (DifferentialObj.run N (D.step N o).1 ops).2)

end defs

theorem oh_step_at_none {α : Type} (N : Num α) (e : Expr α) (x : String) (p : Point α) :
    (PartialObj.mk e x none).step N (.at p) = (⟨e, x, none⟩, .num (fwdG N p x e)) := by rfl

theorem oh_step_at_some {α : Type} (N : Num α) (e s : Expr α) (x : String) (p : Point α) :
    (PartialObj.mk e x (some s)).step N (.at p) =
      (⟨e, x, some s⟩, .num ((PartialObj.mk e x (some s)).at N p)) := rfl

theorem oh_step_asExpr_some {α : Type} (N : Num α) (e s : Expr α) (x : String) :
    (PartialObj.mk e x (some s)).step N .asExpr = (⟨e, x, some s⟩, .expr (.ok (s, false))) := rfl

section generic
variable {α : Type} (N : Num α)

theorem oh_fresh_at (e : Expr α) (x : String) (p : Point α) :
    PartialObj.freshAnswer N e x (.at p) = .num (fwdG N p x e) := by rfl

theorem oh_step_asExpr_none (e : Expr α) (x : String) :
    (PartialObj.mk e x none).step N .asExpr =
      match retrieveSyntheticPartial N e x with
      | .ok (s, w) => (⟨e, x, some s⟩, .expr (.ok (s, w)))
      | .error err => (⟨e, x, none⟩, .expr (.error err)) := by
  unfold PartialObj.step
  rw [PartialObj.asExpression_none]
  cases retrieveSyntheticPartial N e x <;> rfl

theorem oh_step_asExpr_none_ok {e s : Expr α} {x : String} {w : Bool}
    (hret : retrieveSyntheticPartial N e x = .ok (s, w)) :
    (PartialObj.mk e x none).step N .asExpr = (⟨e, x, some s⟩, .expr (.ok (s, w))) := by
  rw [oh_step_asExpr_none, hret]

theorem oh_fresh_asExpr (e : Expr α) (x : String) :
    PartialObj.freshAnswer N e x .asExpr = .expr (retrieveSyntheticPartial N e x) := by
  rw [PartialObj.freshAnswer, oh_step_asExpr_none]
  cases retrieveSyntheticPartial N e x <;> rfl

theorem oh_step_stored (e s : Expr α) (x : String) (o : POp α) :
    ((PartialObj.mk e x (some s)).step N o).1 = ⟨e, x, some s⟩ := by
  cases o <;> rfl

theorem oh_step_stored_asExpr (e s : Expr α) (x : String) :
    ((PartialObj.mk e x (some s)).step N .asExpr).2 = .expr (.ok (s, false)) := rfl

theorem oh_step_asExpr_fail (P : PartialObj α) {err : Err} (h : P.asExpression N = .error err) :
    P.step N .asExpr = (P, .expr (.error err)) := by
  simp only [PartialObj.step, h]

theorem oh_run_nil (P : PartialObj α) : P.run N [] = (P, []) := rfl

theorem oh_run_cons (P : PartialObj α) (o : POp α) (ops : List (POp α)) :
    P.run N (o :: ops) =
      (((P.step N o).1.run N ops).1, (P.step N o).2 :: ((P.step N o).1.run N ops).2) := rfl

theorem oh_run_append (P : PartialObj α) : ∀ ops₁ ops₂ : List (POp α),
    P.run N (ops₁ ++ ops₂) =
      (((P.run N ops₁).1.run N ops₂).1, (P.run N ops₁).2 ++ ((P.run N ops₁).1.run N ops₂).2)
  | [], ops₂ => rfl
  | o :: ops₁, ops₂ => by
    simp only [List.cons_append, oh_run_cons, oh_run_append (P.step N o).1 ops₁ ops₂]

theorem oh_run_length (P : PartialObj α) : ∀ ops : List (POp α), (P.run N ops).2.length = ops.length
  | [] => rfl
  | o :: ops => by simp [oh_run_cons, oh_run_length (P.step N o).1 ops]

theorem oh_run_fixed {P : PartialObj α} : ∀ ops : List (POp α),
    (∀ o ∈ ops, (P.step N o).1 = P) → (P.run N ops).1 = P
  | [], _ => rfl
  | o :: ops, h => by
    rw [oh_run_cons, h o List.mem_cons_self]
    exact oh_run_fixed ops fun o' ho' => h o' (List.mem_cons_of_mem _ ho')

theorem oh_run_stored (e s : Expr α) (x : String) (ops : List (POp α)) :
    ((PartialObj.mk e x (some s)).run N ops).1 = ⟨e, x, some s⟩ :=
  oh_run_fixed N ops fun o _ => oh_step_stored N e s x o

theorem oh_run_no_asExpr (e : Expr α) (x : String) (ops : List (POp α)) (h : POp.asExpr ∉ ops) :
    ((PartialObj.mk e x none).run N ops).1 = ⟨e, x, none⟩ :=
  oh_run_fixed N ops fun o ho => by
    cases o with
    | «at» p => rfl
    | asExpr => exact absurd ho h

theorem oh_run_fuel {e : Expr α} {x : String} {err : Err}
    (hret : retrieveSyntheticPartial N e x = .error err) (ops : List (POp α)) :
    ((PartialObj.mk e x none).run N ops).1 = ⟨e, x, none⟩ :=
  oh_run_fixed N ops fun o _ => by
    cases o with
    | «at» p => rfl
    | asExpr => rw [oh_step_asExpr_none, hret]

theorem oh_inv_new (e : Expr α) (x : String) (early : Bool) {P : PartialObj α} {w : Bool}
    (h : PartialObj.new N e x early = .ok (P, w)) : OhInv N e x P := by
  cases early with
  | false => cases h; exact Or.inl rfl
  | true =>
    obtain ⟨s, hret, rfl⟩ := (PartialObj.new_early_eq_ok N).mp h
    exact Or.inr ⟨s, w, hret, rfl⟩

theorem oh_inv_fresh (e : Expr α) (x : String) : OhInv N e x ⟨e, x, none⟩ := Or.inl rfl

theorem oh_step_inv {e : Expr α} {x : String} {P : PartialObj α} (h : OhInv N e x P) (o : POp α) :
    OhInv N e x (P.step N o).1 := by
  rcases h with rfl | ⟨s, w, hret, rfl⟩
  · cases o with
    | «at» p => exact Or.inl rfl
    | asExpr =>
      rw [oh_step_asExpr_none]
      cases hr : retrieveSyntheticPartial N e x with
      | error err => exact Or.inl rfl
      | ok sw => exact Or.inr ⟨sw.1, sw.2, hr, rfl⟩
  · rw [oh_step_stored]
    exact Or.inr ⟨s, w, hret, rfl⟩

theorem oh_run_inv {e : Expr α} {x : String} : ∀ {P : PartialObj α}, OhInv N e x P →
    ∀ ops : List (POp α), OhInv N e x (P.run N ops).1
  | _, h, [] => h
  | _, h, o :: ops => oh_run_inv (oh_step_inv N h o) ops

theorem oh_inv_stored {e : Expr α} {x : String} {P : PartialObj α} (h : OhInv N e x P) :
    P.orig = e ∧ P.x = x ∧
      ∀ s, P.syn = some s → ∃ w, retrieveSyntheticPartial N e x = .ok (s, w) := by
  rcases h with rfl | ⟨t, w, r, rfl⟩
  · exact ⟨rfl, rfl, fun s h => nomatch h⟩
  · exact ⟨rfl, rfl, fun s h => Option.some.inj h ▸ ⟨w, r⟩⟩

theorem oh_inv_stored_unique {e : Expr α} {x : String} {P₁ P₂ : PartialObj α}
    (h₁ : OhInv N e x P₁) (h₂ : OhInv N e x P₂) {s₁ s₂ : Expr α} (e₁ : P₁.syn = some s₁)
    (e₂ : P₂.syn = some s₂) : s₁ = s₂ := by
  obtain ⟨w₁, r₁⟩ := (oh_inv_stored N h₁).2.2 s₁ e₁
  obtain ⟨w₂, r₂⟩ := (oh_inv_stored N h₂).2.2 s₂ e₂
  rw [r₁] at r₂
  cases r₂
  rfl

theorem oh_run_early (e : Expr α) (x : String) {P : PartialObj α} {w : Bool}
    (h : PartialObj.new N e x true = .ok (P, w)) (ops : List (POp α)) : (P.run N ops).1 = P := by
  obtain ⟨s, _, rfl⟩ := (PartialObj.new_early_eq_ok N).mp h
  exact oh_run_stored N e s x ops

theorem oh_step_asExpr_stores {e s : Expr α} {x : String} {w : Bool}
    (hret : retrieveSyntheticPartial N e x = .ok (s, w)) {P : PartialObj α} (hinv : OhInv N e x P) :
    (P.step N .asExpr).1 = ⟨e, x, some s⟩ := by
  rcases hinv with rfl | ⟨s', w', hret', rfl⟩
  · rw [oh_step_asExpr_none_ok N hret]
  · rw [hret] at hret'
    cases hret'
    rfl

theorem oh_run_asExpr_mem {e s : Expr α} {x : String} {w : Bool}
    (hret : retrieveSyntheticPartial N e x = .ok (s, w)) {P : PartialObj α} (hinv : OhInv N e x P)
    (ops : List (POp α)) (h : POp.asExpr ∈ ops) : (P.run N ops).1 = ⟨e, x, some s⟩ := by
  obtain ⟨l₁, l₂, rfl⟩ := List.append_of_mem h
  rw [oh_run_append, oh_run_cons]
  simp only
  rw [oh_step_asExpr_stores N hret (oh_run_inv N hinv l₁), oh_run_stored]

theorem oh_asExpr_memoOf {e : Expr α} {x : String} {P : PartialObj α} (h : OhInv N e x P) :
    POut.MemoOf (PartialObj.freshAnswer N e x .asExpr) (P.step N .asExpr).2 := by
  rcases h with rfl | ⟨s, w, hret, rfl⟩
  · exact Or.inl rfl
  · rw [oh_fresh_asExpr, hret]
    exact Or.inr ⟨s, w, rfl, rfl⟩

theorem oh_memoOf_forget {fresh out : POut α} (h : POut.MemoOf fresh out) :
    out.forget = fresh.forget := by
  rcases h with rfl | ⟨s, w, rfl, rfl⟩ <;> rfl

theorem oh_memoOf_refl (a : POut α) : POut.MemoOf a a := Or.inl rfl

theorem oh_memoOf_num {r : R α} {out : POut α} (h : POut.MemoOf (.num r) out) : out = .num r := by
  rcases h with rfl | ⟨s, w, h, _⟩
  · rfl
  · cases h

theorem oh_memoOf_no_warning {fresh out : POut α} (h : POut.MemoOf fresh out)
    (hw : ∀ s w, fresh = .expr (.ok (s, w)) → w = false) : out = fresh := by
  rcases h with rfl | ⟨s, w, rfl, rfl⟩
  · rfl
  · rw [hw s w rfl]

theorem oh_dstep_eq (D : DerivativeObj α) (o : DOp α) :
    D.step N o = ({ D with partial_ := (D.partial_.step N (o.toPOp D.x)).1 },
      (D.partial_.step N (o.toPOp D.x)).2) := by
  cases o with
  | «at» p => rfl
  | atNumber t => rfl
  | asExpr =>
    simp only [DerivativeObj.step, DerivativeObj.asExpression, DOp.toPOp, PartialObj.step]
    cases D.partial_.asExpression N <;> rfl

theorem oh_drun_eq : ∀ (D : DerivativeObj α) (ops : List (DOp α)),
    D.run N ops = ({ D with partial_ := (D.partial_.run N (ops.map (DOp.toPOp D.x))).1 },
      (D.partial_.run N (ops.map (DOp.toPOp D.x))).2)
  | D, [] => rfl
  | D, o :: ops => by
    simp only [DerivativeObj.run, List.map_cons, oh_run_cons]
    rw [oh_dstep_eq, oh_drun_eq _ ops]

theorem oh_dfresh_eq (e : Expr α) (x : String) (o : DOp α) :
    DerivativeObj.freshAnswer N e x o = PartialObj.freshAnswer N e x (o.toPOp x) := by
  unfold DerivativeObj.freshAnswer PartialObj.freshAnswer
  rw [oh_dstep_eq]

theorem oh_dinv_new (e : Expr α) (early : Bool) {D : DerivativeObj α} {w : Bool}
    (h : DerivativeObj.new N e early = .ok (D, w)) :
    singleVarName e = .ok D.x ∧ OhDInv N e D.x D := by
  obtain ⟨x, P, hx, hp, rfl⟩ := DerivativeObj.new_ok N h
  exact ⟨hx, rfl, rfl, oh_inv_new N e x early hp⟩

/-- a late `Derivative` is the fresh object `freshAnswer` talks about -/
theorem oh_dnew_late (e : Expr α) {D : DerivativeObj α} {w : Bool}
    (h : DerivativeObj.new N e false = .ok (D, w)) : D = ⟨e, D.x, ⟨e, D.x, none⟩⟩ := by
  obtain ⟨x, P, _, hp, rfl⟩ := DerivativeObj.new_ok N h
  cases hp
  rfl

theorem oh_drun_inv {e : Expr α} {x : String} {D : DerivativeObj α} (h : OhDInv N e x D)
    (ops : List (DOp α)) : OhDInv N e x (D.run N ops).1 := by
  obtain ⟨h1, h2, h3⟩ := h
  rw [oh_drun_eq]
  exact ⟨h1, h2, oh_run_inv N h3 _⟩

theorem oh_frun_state (D : DifferentialObj α) : ∀ ops : List (FOp α), (D.run N ops).1 = D
  | [] => rfl
  | _ :: ops => oh_frun_state D ops

theorem oh_frun_answers (D : DifferentialObj α) : ∀ ops : List (FOp α),
    (D.run N ops).2 = ops.map (D.answer N)
  | [] => rfl
  | _ :: ops => by
    simp only [DifferentialObj.run, DifferentialObj.step, List.map_cons, oh_frun_answers D ops]

end generic

section real
variable {e : Expr ℝ} {x : String}

/-- the call needs no coordinate the point does not have -/
def POp.Supplies (e : Expr ℝ) : POp ℝ → Prop
  | .at p => Supp p e
  | .asExpr => True

def DOp.Supplies (e : Expr ℝ) : DOp ℝ → Prop
  | .at p => Supp p e
  | .atNumber _ => True
  | .asExpr => True

/-- the K1 hypothesis is needed on the domain only: off it the original, evaluated first, raises -/
theorem oh_at_inv (hwf : WF e) {P : PartialObj ℝ} (hinv : OhInv realNum e x P) {p : Point ℝ}
    (hs : Supp p e)
    (hK1 : Dom (valOf p) e →
      NormOK K1FreeAt REDUCTION_STEPS_BOUND NORMALIZE_FUEL (symFwd realNum x e)) :
    P.at realNum p = fwdG realNum p x e := by
  rcases hinv with rfl | ⟨s, w, hret, rfl⟩
  · rfl
  · exact routes_at_stored x hwf hs fun hd => routes_retrieved_eval x hwf (hK1 hd) hret hs hd

theorem oh_step_memoOf (hwf : WF e)
    (hK1 : NormOK K1FreeAt REDUCTION_STEPS_BOUND NORMALIZE_FUEL (symFwd realNum x e))
    {P : PartialObj ℝ} (hinv : OhInv realNum e x P) (o : POp ℝ) (hsupp : o.Supplies e) :
    POut.MemoOf (PartialObj.freshAnswer realNum e x o) (P.step realNum o).2 := by
  cases o with
  | asExpr => exact oh_asExpr_memoOf realNum hinv
  | «at» p => exact Or.inl (congrArg POut.num (oh_at_inv hwf hinv hsupp fun _ => hK1))

theorem oh_run_transcript (hwf : WF e)
    (hK1 : NormOK K1FreeAt REDUCTION_STEPS_BOUND NORMALIZE_FUEL (symFwd realNum x e)) :
    ∀ {P : PartialObj ℝ}, OhInv realNum e x P → ∀ ops : List (POp ℝ),
      (∀ o ∈ ops, o.Supplies e) →
      List.Forall₂ (fun o out => POut.MemoOf (PartialObj.freshAnswer realNum e x o) out) ops
        (P.run realNum ops).2
  | _, _, [], _ => List.Forall₂.nil
  | _, hinv, o :: ops, hsupp =>
    List.Forall₂.cons (oh_step_memoOf hwf hK1 hinv o (hsupp o List.mem_cons_self))
      (oh_run_transcript hwf hK1 (oh_step_inv realNum hinv o) ops
        fun o' ho' => hsupp o' (List.mem_cons_of_mem _ ho'))

theorem oh_after_history (hwf : WF e)
    (hK1 : NormOK K1FreeAt REDUCTION_STEPS_BOUND NORMALIZE_FUEL (symFwd realNum x e))
    {P : PartialObj ℝ} (hinv : OhInv realNum e x P) (ops : List (POp ℝ)) (o : POp ℝ)
    (hsupp : o.Supplies e) :
    POut.MemoOf (PartialObj.freshAnswer realNum e x o) ((P.run realNum ops).1.step realNum o).2 :=
  oh_step_memoOf hwf hK1 (oh_run_inv realNum hinv ops) o hsupp

theorem oh_supp_single (hx : singleVarName e = .ok x) (t : ℝ) : Supp [(x, t)] e := by
  rw [supp_iff_vars]
  intro y hy
  rw [(routes_singleVarName_ok hx).2 y hy]
  simp [Point.get?]

theorem oh_dop_supplies (hx : singleVarName e = .ok x) {o : DOp ℝ} (h : o.Supplies e) :
    (o.toPOp x).Supplies e := by
  cases o with
  | «at» p => exact h
  | atNumber t => exact oh_supp_single hx t
  | asExpr => trivial

theorem oh_dafter_history (hwf : WF e) (hx : singleVarName e = .ok x)
    (hK1 : NormOK K1FreeAt REDUCTION_STEPS_BOUND NORMALIZE_FUEL (symFwd realNum x e))
    {D : DerivativeObj ℝ} (hinv : OhDInv realNum e x D) (ops : List (DOp ℝ)) (o : DOp ℝ)
    (hsupp : o.Supplies e) :
    POut.MemoOf (DerivativeObj.freshAnswer realNum e x o)
      ((D.run realNum ops).1.step realNum o).2 := by
  obtain ⟨_, h2, h3⟩ := oh_drun_inv realNum hinv ops
  rw [oh_dfresh_eq, oh_dstep_eq, h2]
  exact oh_step_memoOf hwf hK1 h3 _ (oh_dop_supplies hx hsupp)

theorem oh_drun_transcript (hwf : WF e) (hx : singleVarName e = .ok x)
    (hK1 : NormOK K1FreeAt REDUCTION_STEPS_BOUND NORMALIZE_FUEL (symFwd realNum x e))
    {D : DerivativeObj ℝ} (hinv : OhDInv realNum e x D) (ops : List (DOp ℝ))
    (hsupp : ∀ o ∈ ops, o.Supplies e) :
    List.Forall₂ (fun o out => POut.MemoOf (DerivativeObj.freshAnswer realNum e x o) out) ops
      (D.run realNum ops).2 := by
  rw [oh_drun_eq, hinv.2.1]
  simp only [oh_dfresh_eq]
  refine (List.forall₂_map_left_iff (f := DOp.toPOp x)).mp
    (oh_run_transcript hwf hK1 hinv.2.2 _ fun o ho => ?_)
  obtain ⟨o', ho', rfl⟩ := List.mem_map.mp ho
  exact oh_dop_supplies hx (hsupp o' ho')

end real

/-! ### replayed histories (non-vacuity) -/

section runs

theorem oh_run_five {α : Type} (N : Num α) {e s : Expr α} {x : String} {w : Bool}
    (hret : retrieveSyntheticPartial N e x = .ok (s, w)) (p q : Point α) :
    (PartialObj.mk e x none).run N [.at p, .asExpr, .at q, .asExpr, .at p] =
      (⟨e, x, some s⟩, [.num (fwdG N p x e), .expr (.ok (s, w)),
        .num ((PartialObj.mk e x (some s)).at N q), .expr (.ok (s, false)),
        .num ((PartialObj.mk e x (some s)).at N p)]) := by
  simp only [oh_run_cons, oh_run_nil, oh_step_at_none, oh_step_asExpr_none_ok N hret,
    oh_step_at_some, oh_step_asExpr_some]

theorem oh_exXsin_retrieve :
    retrieveSyntheticPartial realNum (mkMul [mkVar "x", mkSin (mkVar "x")] : Expr ℝ) "x" =
      .ok (mkAdd [mkSin (mkVar "x"), mkMul [mkCos (mkVar "x"), mkVar "x"]], false) :=
  (asExpression_late runXsin_asExpression).1

theorem oh_exXsin_wf : WF (mkMul [mkVar "x", mkSin (mkVar "x")] : Expr ℝ) := by
  simp only [WF, WFList, and_self]

theorem oh_exXsin_K1 : NormOK K1FreeAt REDUCTION_STEPS_BOUND NORMALIZE_FUEL
    (symFwd realNum "x" (mkMul [mkVar "x", mkSin (mkVar "x")] : Expr ℝ)) :=
  runXsin_symFwd ▸ runXsin_normOK _

theorem oh_exXsin_dom (ρ : String → ℝ) : Dom ρ (mkMul [mkVar "x", mkSin (mkVar "x")] : Expr ℝ) := by
  simp only [Dom, DomList, and_self]

theorem oh_exXsin_run (p q : Point ℝ) (hp : Supp p (mkMul [mkVar "x", mkSin (mkVar "x")] : Expr ℝ))
    (hq : Supp q (mkMul [mkVar "x", mkSin (mkVar "x")] : Expr ℝ)) :
    (PartialObj.mk (mkMul [mkVar "x", mkSin (mkVar "x")] : Expr ℝ) "x" none).run realNum
        [.at p, .asExpr, .at q, .asExpr, .at p] =
      (⟨mkMul [mkVar "x", mkSin (mkVar "x")], "x",
          some (mkAdd [mkSin (mkVar "x"), mkMul [mkCos (mkVar "x"), mkVar "x"]])⟩,
        [.num (.ok (truePartial p "x" (mkMul [mkVar "x", mkSin (mkVar "x")]))),
          .expr (.ok (mkAdd [mkSin (mkVar "x"), mkMul [mkCos (mkVar "x"), mkVar "x"]], false)),
          .num (.ok (truePartial q "x" (mkMul [mkVar "x", mkSin (mkVar "x")]))),
          .expr (.ok (mkAdd [mkSin (mkVar "x"), mkMul [mkCos (mkVar "x"), mkVar "x"]], false)),
          .num (.ok (truePartial p "x" (mkMul [mkVar "x", mkSin (mkVar "x")])))]) := by
  have hinv : OhInv realNum _ "x" _ := Or.inr ⟨_, _, oh_exXsin_retrieve, rfl⟩
  rw [oh_run_five realNum oh_exXsin_retrieve,
    oh_at_inv oh_exXsin_wf hinv hp fun _ => oh_exXsin_K1,
    oh_at_inv oh_exXsin_wf hinv hq fun _ => oh_exXsin_K1,
    tp_fwd_is_truePartial p "x" _ oh_exXsin_wf hp (oh_exXsin_dom _),
    tp_fwd_is_truePartial q "x" _ oh_exXsin_wf hq (oh_exXsin_dom _)]

theorem oh_exXsin_value (p : Point ℝ)
    (hp : Supp p (mkMul [mkVar "x", mkSin (mkVar "x")] : Expr ℝ)) :
    truePartial p "x" (mkMul [mkVar "x", mkSin (mkVar "x")]) =
      Real.sin (valOf p "x") + Real.cos (valOf p "x") * valOf p "x" := by
  have hder := (refines_symFwd_hasDerivAt (retrieveSyntheticPartial_refines _ _ _ _ oh_exXsin_K1
    oh_exXsin_retrieve) oh_exXsin_wf (valOf p) (oh_exXsin_dom _)).2
  rw [truePartial, hder.deriv]
  simp [den, denList]

theorem oh_exRc_retrieve :
    retrieveSyntheticPartial realNum runRcExpr "y" =
      .ok (mkNeg (mkRecip (mkNPow (mkVar "y") 2)), false) :=
  liftFuel_eq_ok.mpr (runRc_symFwd ▸ runRc_normalize)

theorem oh_exRc_wf : WF runRcExpr := by simp [WF]

/-- a history with a point off the domain: the call at `y = 0` raises `DomainError` although the
stored expression is there (and a fresh object raises it, too) -/
theorem oh_exRc_run :
    (PartialObj.mk runRcExpr "y" none).run realNum
        [.at [("y", 2)], .asExpr, .at [("y", 0)], .asExpr, .at [("y", 2)]] =
      (⟨runRcExpr, "y", some (mkNeg (mkRecip (mkNPow (mkVar "y") 2)))⟩,
        [.num (.ok (truePartial [("y", 2)] "y" runRcExpr)),
          .expr (.ok (mkNeg (mkRecip (mkNPow (mkVar "y") 2)), false)),
          .num (.error .domain),
          .expr (.ok (mkNeg (mkRecip (mkNPow (mkVar "y") 2)), false)),
          .num (.ok (truePartial [("y", 2)] "y" runRcExpr))]) ∧
      PartialObj.freshAnswer realNum runRcExpr "y" (.at [("y", 0)]) = .num (.error .domain) := by
  have hinv : OhInv realNum _ "y" _ := Or.inr ⟨_, _, oh_exRc_retrieve, rfl⟩
  have hs2 : Supp [("y", (2 : ℝ))] runRcExpr := by simp [Supp, Point.get?]
  have hd2 : Dom (valOf [("y", (2 : ℝ))]) runRcExpr := by simp [Dom, den, valOf, Point.get?]
  have hs0 : Supp [("y", (0 : ℝ))] runRcExpr := by simp [Supp, Point.get?]
  have hd0 : ¬ Dom (valOf [("y", (0 : ℝ))]) runRcExpr := by simp [Dom, den, valOf, Point.get?]
  rw [oh_fresh_at, oh_run_five realNum oh_exRc_retrieve,
    oh_at_inv oh_exRc_wf hinv hs2 fun _ => runRc_K1Fwd,
    oh_at_inv oh_exRc_wf hinv hs0 fun hd => absurd hd hd0,
    tp_fwd_is_truePartial _ "y" _ oh_exRc_wf hs2 hd2, routes_fwdG_off "y" oh_exRc_wf hs0 hd0]
  exact ⟨rfl, rfl⟩

end runs

end Smooth
