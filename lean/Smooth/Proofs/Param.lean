/-
Proofs/Param — conditions on the exponents and bases inside an expression.  Mathlib-free.

`NoEvenRoot` (every root degree is odd) and `WF` (degrees ≥ 1, bases > 0, logarithm base ≠ 1) say of
every `NthPower`, `NthRoot`, `Exponential` and `Logarithm` node that its own exponent or base is
acceptable, and nothing else.  `ParamOK S` is that kind of condition for an arbitrary choice `S` of
what is acceptable.  The rewrite rules never invent an exponent or a base: they copy one, multiply
two, divide one by a gcd, or read one off a constant operand (`rulePowNat`, `rulePowConstBase`).  So
every rule keeps `ParamOK S` as soon as `S` is closed under these (`ParamSpec.Closed`), and then so do
`_take_reduction_step`, `_fully_reduce` and `_normalize` (`ParamSpec.Closed.driverClosed`).
-/
import Smooth.Proofs.Shape
import Smooth.Proofs.RuleInv

namespace Smooth
open Expr
variable {α : Type}

/-- which exponents of `NthPower`, degrees of `NthRoot`, bases of `Exponential` and of `Logarithm`
are acceptable -/
structure ParamSpec (α : Type) where
  npow : Nat → Prop
  nroot : Nat → Prop
  exp : α → Prop
  log : α → Prop

def ParamAt (S : ParamSpec α) : Expr α → Prop
  | .npow _ _ n => S.npow n
  | .nroot _ _ n => S.nroot n
  | .exp _ _ b => S.exp b
  | .log _ _ b => S.log b
  | _ => True

abbrev ParamOK (S : ParamSpec α) : Expr α → Prop := Everywhere (ParamAt S)

section nodes
variable (S : ParamSpec α) (f : Flags) (u l r : Expr α) (as : List (Expr α)) (n : Nat) (b v : α)
  (x : String)

@[simp] theorem paramOK_const : ParamOK S (.const f v) :=
  everywhere_iff.mpr (by simp [children, ParamAt])
@[simp] theorem paramOK_var : ParamOK S (.var f x : Expr α) :=
  everywhere_iff.mpr (by simp [children, ParamAt])
@[simp] theorem paramOK_add : ParamOK S (.add f as) ↔ ∀ a ∈ as, ParamOK S a :=
  everywhere_iff.trans (by simp [children, ParamAt])
@[simp] theorem paramOK_mul : ParamOK S (.mul f as) ↔ ∀ a ∈ as, ParamOK S a :=
  everywhere_iff.trans (by simp [children, ParamAt])
@[simp] theorem paramOK_minus : ParamOK S (.minus f l r) ↔ ParamOK S l ∧ ParamOK S r :=
  everywhere_iff.trans (by simp [children, ParamAt])
@[simp] theorem paramOK_div : ParamOK S (.div f l r) ↔ ParamOK S l ∧ ParamOK S r :=
  everywhere_iff.trans (by simp [children, ParamAt])
@[simp] theorem paramOK_pow : ParamOK S (.pow f l r) ↔ ParamOK S l ∧ ParamOK S r :=
  everywhere_iff.trans (by simp [children, ParamAt])
@[simp] theorem paramOK_neg : ParamOK S (.neg f u) ↔ ParamOK S u :=
  everywhere_iff.trans (by simp [children, ParamAt])
@[simp] theorem paramOK_recip : ParamOK S (.recip f u) ↔ ParamOK S u :=
  everywhere_iff.trans (by simp [children, ParamAt])
@[simp] theorem paramOK_cos : ParamOK S (.cos f u) ↔ ParamOK S u :=
  everywhere_iff.trans (by simp [children, ParamAt])
@[simp] theorem paramOK_sin : ParamOK S (.sin f u) ↔ ParamOK S u :=
  everywhere_iff.trans (by simp [children, ParamAt])
@[simp] theorem paramOK_npow : ParamOK S (.npow f u n) ↔ S.npow n ∧ ParamOK S u :=
  everywhere_iff.trans (by simp [children, ParamAt])
@[simp] theorem paramOK_nroot : ParamOK S (.nroot f u n) ↔ S.nroot n ∧ ParamOK S u :=
  everywhere_iff.trans (by simp [children, ParamAt])
@[simp] theorem paramOK_exp : ParamOK S (.exp f u b) ↔ S.exp b ∧ ParamOK S u :=
  everywhere_iff.trans (by simp [children, ParamAt])
@[simp] theorem paramOK_log : ParamOK S (.log f u b) ↔ S.log b ∧ ParamOK S u :=
  everywhere_iff.trans (by simp [children, ParamAt])

end nodes

theorem paramAt_setFlags (S : ParamSpec α) (g : Flags) (e : Expr α) :
    ParamAt S (e.setFlags g) ↔ ParamAt S e := by
  cases e <;> exact Iff.rfl

theorem paramAt_rebuildNode (S : ParamSpec α) (e : Expr α) (cs : List (Expr α)) :
    ParamAt S (rebuildNode e cs) ↔ ParamAt S e := by
  cases e <;> exact Iff.rfl

@[simp] theorem paramOK_setFlags (S : ParamSpec α) (g : Flags) (e : Expr α) :
    ParamOK S (e.setFlags g) ↔ ParamOK S e := by
  rw [ParamOK, everywhere_iff, everywhere_iff (e := e), children_setFlags, paramAt_setFlags]

/-- what the rules do to exponents and bases (`N` only enters through `rulePowConstBase`, which
turns a positive constant base other than 1 into the base of an `Exponential`) -/
structure ParamSpec.Closed (N : Num α) (S : ParamSpec α) : Prop where
  npow_mul : ∀ {n m : Nat}, S.npow n → S.npow m → S.npow (n * m)
  nroot_mul : ∀ {n m : Nat}, S.nroot n → S.nroot m → S.nroot (n * m)
  npow_div_gcd : ∀ {n : Nat} (m : Nat), S.npow n → S.npow (n / Nat.gcd m n)
  nroot_div_gcd : ∀ {m : Nat} (n : Nat), S.nroot m → S.nroot (m / Nat.gcd m n)
  npow_toNat : ∀ {k : Int}, 2 ≤ k → S.npow k.toNat
  exp_base : ∀ {v : α}, N.isPos v = true → N.eq v N.one = false → S.exp v

variable {N : Num α} {S : ParamSpec α}

theorem ParamSpec.Closed.builds (hS : S.Closed N) : Builds N (ParamOK S) where
  const := paramOK_const S {}
  add := (paramOK_add ..).mpr
  mul := (paramOK_mul ..).mpr
  neg := (paramOK_neg ..).mpr
  recip := (paramOK_recip ..).mpr
  pow hl hr := (paramOK_pow ..).mpr ⟨hl, hr⟩
  cos := (paramOK_cos ..).mpr
  sin := (paramOK_sin ..).mpr
  npow hv hu := (paramOK_npow ..).mpr ⟨((paramOK_npow ..).mp hv).1, hu⟩
  nroot hv hu := (paramOK_nroot ..).mpr ⟨((paramOK_nroot ..).mp hv).1, hu⟩
  exp hv hu := (paramOK_exp ..).mpr ⟨((paramOK_exp ..).mp hv).1, hu⟩
  log hv hu := (paramOK_log ..).mpr ⟨((paramOK_log ..).mp hv).1, hu⟩
  powNat h _ hk := (paramOK_npow ..).mpr ⟨hS.npow_toNat hk, ((paramOK_pow ..).mp h).1⟩
  powConstBase h hp h1 := (paramOK_exp ..).mpr ⟨hS.exp_base hp h1, ((paramOK_pow ..).mp h).2⟩
  npowRoot h _ _ := by
    simp only [paramOK_npow, paramOK_nroot] at h ⊢
    exact ⟨hS.npow_div_gcd _ h.1, hS.nroot_div_gcd _ h.2.1, h.2.2⟩
  npowPow h := by
    simp only [paramOK_npow] at h ⊢
    exact ⟨hS.npow_mul h.1 h.2.1, h.2.2⟩
  nrootRoot h := by
    simp only [paramOK_nroot] at h ⊢
    exact ⟨hS.nroot_mul h.1 h.2.1, h.2.2⟩

theorem ParamSpec.Closed.driverClosed (hS : S.Closed N) : DriverClosed N (ParamOK S) where
  setFlags g h := (paramOK_setFlags S g _).mpr h
  child := Everywhere.child
  rebuild h hl hcs := (everywhere_rebuildNode _ _ hl).mpr
    ⟨(paramAt_rebuildNode S _ _).mpr (h _ (Sub.refl _)), hcs⟩
  const := paramOK_const S {}
  add := (paramOK_add ..).mpr
  mul := (paramOK_mul ..).mpr
  minus ha hb := (paramOK_minus ..).mpr ⟨ha, hb⟩
  div ha hb := (paramOK_div ..).mpr ⟨ha, hb⟩
  neg := (paramOK_neg ..).mpr
  recip := (paramOK_recip ..).mpr
  rule := rule_closed Everywhere.hered hS.builds

end Smooth
