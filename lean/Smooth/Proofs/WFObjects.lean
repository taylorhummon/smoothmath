/-
Proofs/WFObjects — C17 for the object layer as an invariant of the objects, method by method (not
only for the thirteen compositions of Model/Routes.lean): every `Partial`, `Derivative`,
`Differential`, `LocatedDifferential` built by a public constructor from a well-formed expression
stores only well-formed expressions; every method keeps that; and every method can only fail with the
library's own errors (`.domain`, `.missing`, `.usage` for `Derivative` of ≥ 2 variables) or — at the
places where `_normalize` runs — with the model's `.fuel`.

The stored (simplified) expressions are evaluated; `evalG` has only the errors `.domain` and
`.missing` on well-formed trees, which is why `Proofs/WFDriver` (simplification keeps `WF`,
with no side condition) is what this file rests on.
-/
import Smooth.Proofs.WFDriver

namespace Smooth
open Classical Expr

theorem wfd_bind_pure_error {β γ : Type} {r : R β} {f : β → γ} {err : Err}
    (h : (r >>= fun a => pure (f a)) = .error err) : r = .error err :=
  (R.bind_eq_error_iff.mp h).elim id fun ⟨_, _, h⟩ => nomatch h

/-- a composition fails with the error of its first part or, the first part having succeeded with a
result of which `Q` holds, with an error of the rest -/
theorem wfd_bind_error_or {β γ : Type} {r : R β} {k : β → R γ} {Q : β → Prop} {S : Prop} {err : Err}
    (hok : ∀ a, r = .ok a → Q a) (hk : ∀ a, Q a → k a = .error err → S)
    (h : r >>= k = .error err) : r = .error err ∨ S :=
  (R.bind_eq_error_iff.mp h).imp_right fun ⟨a, ha, h⟩ => hk a (hok a ha) h

theorem wfd_evalG_error {p : Point ℝ} {e : Expr ℝ} (hwf : WF e) {err : Err}
    (h : evalG realNum p e = .error err) : err = .domain ∨ err = .missing :=
  (evalR_good p e hwf).error_cases h

theorem wfd_fwdG_error {p : Point ℝ} {x : String} {e : Expr ℝ} (hwf : WF e) {err : Err}
    (h : fwdG realNum p x e = .error err) : err = .domain ∨ err = .missing :=
  (fwdR_spec p x e hwf).error_kinds h

theorem wfd_numericPartials_error {p : Point ℝ} {e : Expr ℝ} (hwf : WF e) {err : Err}
    (h : numericPartials realNum p e = .error err) : err = .domain ∨ err = .missing :=
  (revR_spec p e hwf _ _).error_kinds (wfd_bind_pure_error h)

theorem wfd_evalAll_error {p : Point ℝ} {d : SAcc ℝ} (hd : SAccWF d) {err : Err}
    (h : evalAll realNum p d = .error err) : err = .domain ∨ err = .missing := by
  induction d with
  | nil => cases h
  | cons xs rest ih =>
    unfold evalAll at h
    rcases R.bind_eq_error_iff.mp h with h | ⟨v, _, h⟩
    · exact wfd_evalG_error (hd xs List.mem_cons_self) h
    · exact ih (fun q hq => hd q (List.mem_cons_of_mem _ hq)) (wfd_bind_pure_error h)

def PartialObj.WFInv (P : PartialObj ℝ) : Prop := WF P.orig ∧ ∀ s, P.syn = some s → WF s

def DerivativeObj.WFInv (D : DerivativeObj ℝ) : Prop := D.partial_.WFInv

def DifferentialObj.WFInv (D : DifferentialObj ℝ) : Prop :=
  WF D.orig ∧ ∀ d, D.syn = some d → SAccWF d

theorem wfd_partialInv_late {e : Expr ℝ} (hwf : WF e) (x : String) :
    (PartialObj.mk e x none).WFInv :=
  ⟨hwf, fun _ h => nomatch h⟩

theorem wfd_partialInv_stored {e s : Expr ℝ} (hwf : WF e) (hs : WF s) (x : String) :
    (PartialObj.mk e x (some s)).WFInv :=
  ⟨hwf, fun _ h => Option.some.inj h ▸ hs⟩

theorem wfd_partialNew {e : Expr ℝ} (x : String) (early : Bool) (hwf : WF e) :
    (∀ err, PartialObj.new realNum e x early = .error err → err = .fuel) ∧
    (∀ P w, PartialObj.new realNum e x early = .ok (P, w) → P.WFInv ∧ P.orig = e ∧ P.x = x) := by
  cases early with
  | true =>
    refine ⟨routes_partialNew_early_error realNum e x, fun P w h => ?_⟩
    obtain ⟨s, hret, rfl⟩ := (PartialObj.new_early_eq_ok realNum).mp h
    exact ⟨wfd_partialInv_stored hwf (wfd_retrieve hret hwf) x, rfl, rfl⟩
  | false =>
    refine ⟨fun err h => (nomatch h), fun P w h => ?_⟩
    cases h
    exact ⟨wfd_partialInv_late hwf x, rfl, rfl⟩

theorem wfd_partialAt {P : PartialObj ℝ} (hP : P.WFInv) (p : Point ℝ) (err : Err)
    (h : P.at realNum p = .error err) : err = .domain ∨ err = .missing := by
  unfold PartialObj.at at h
  cases hs : P.syn with
  | none =>
    simp only [hs] at h
    exact wfd_fwdG_error hP.1 h
  | some s =>
    simp only [hs] at h
    rcases R.bind_eq_error_iff.mp h with h | ⟨v, _, h⟩
    · exact wfd_evalG_error hP.1 h
    · exact wfd_evalG_error (hP.2 s hs) h

theorem wfd_partialAsExpression {P : PartialObj ℝ} (hP : P.WFInv) :
    (∀ err, P.asExpression realNum = .error err → err = .fuel) ∧
    (∀ s P' w, P.asExpression realNum = .ok (s, P', w) → WF s ∧ P'.WFInv ∧ P'.orig = P.orig) := by
  obtain ⟨e, x, _ | s⟩ := P
  · refine ⟨fun err h => ?_, fun s P' w h => ?_⟩
    · exact routes_retrieve_error realNum e x err (PartialObj.asExpression_none_error realNum h)
    · obtain ⟨hret, rfl⟩ := asExpression_late h
      exact ⟨wfd_retrieve hret hP.1, wfd_partialInv_stored hP.1 (wfd_retrieve hret hP.1) x, rfl⟩
  · refine ⟨fun err h => (nomatch h), fun s' P' w h => ?_⟩
    cases h
    exact ⟨hP.2 s rfl, hP, rfl⟩

theorem wfd_derivativeNew {e : Expr ℝ} (early : Bool) (hwf : WF e) :
    (∀ err, DerivativeObj.new realNum e early = .error err → err = .fuel ∨ err = .usage) ∧
    (∀ D w, DerivativeObj.new realNum e early = .ok (D, w) → D.WFInv) := by
  refine ⟨fun err h => ?_, fun D w h => ?_⟩
  · rcases R.bind_eq_error_iff.mp h with h | ⟨x, _, h⟩
    · exact .inr (wfd_singleVarName_error h)
    · exact .inl ((wfd_partialNew x early hwf).1 err (wfd_bind_pure_error h))
  · obtain ⟨x, P, -, hP, rfl⟩ := DerivativeObj.new_ok realNum h
    exact ((wfd_partialNew x early hwf).2 P w hP).1

theorem wfd_derivativeAt {D : DerivativeObj ℝ} (hD : D.WFInv) (err : Err) :
    (∀ p, D.at realNum p = .error err → err = .domain ∨ err = .missing) ∧
    (∀ t, D.atNumber realNum t = .error err → err = .domain ∨ err = .missing) :=
  ⟨fun p h => wfd_partialAt hD p err h, fun _ h => wfd_partialAt hD _ err h⟩

theorem wfd_derivativeAsExpression {D : DerivativeObj ℝ} (hD : D.WFInv) :
    (∀ err, D.asExpression realNum = .error err → err = .fuel) ∧
    (∀ s D' w, D.asExpression realNum = .ok (s, D', w) → WF s ∧ D'.WFInv) := by
  refine ⟨fun err h => (wfd_partialAsExpression hD).1 err (wfd_bind_pure_error h), fun s D' w h => ?_⟩
  obtain ⟨h1, h2, -⟩ :=
    (wfd_partialAsExpression hD).2 _ _ _ (DerivativeObj.asExpression_eq_ok realNum h)
  exact ⟨h1, h2⟩

theorem wfd_differentialNew {e : Expr ℝ} (early : Bool) (hwf : WF e) :
    (∀ err, DifferentialObj.new realNum e early = .error err → err = .fuel) ∧
    (∀ D w, DifferentialObj.new realNum e early = .ok (D, w) → D.WFInv ∧ D.orig = e) := by
  cases early with
  | true =>
    refine ⟨routes_differentialNew_early_error realNum e, fun D w h => ?_⟩
    obtain ⟨d, hn, rfl⟩ := differentialNew_early realNum e h
    exact ⟨⟨hwf, fun d' hd' => Option.some.inj hd' ▸ wfd_differential_table hn hwf⟩, rfl⟩
  | false =>
    refine ⟨fun err h => (nomatch h), fun D w h => ?_⟩
    cases h
    exact ⟨⟨hwf, fun d' hd' => nomatch hd'⟩, rfl⟩

theorem wfd_differentialComponent {D : DifferentialObj ℝ} (hD : D.WFInv) (x : String) :
    ∃ P w, D.component realNum x = .ok (P, w) ∧ P.WFInv := by
  have late : ∃ P w, PartialObj.new realNum D.orig x false = .ok (P, w) ∧ P.WFInv :=
    ⟨_, false, rfl, wfd_partialInv_late hD.1 x⟩
  unfold DifferentialObj.component
  cases hs : D.syn with
  | none => exact late
  | some d =>
    simp only
    cases hg : SAcc.get? d x with
    | none => exact late
    | some s => exact ⟨_, false, rfl, wfd_partialInv_stored hD.1 (SAccWF_get? (hD.2 d hs) hg) x⟩

theorem wfd_differentialComponentAt {D : DifferentialObj ℝ} (hD : D.WFInv) (x : String)
    (p : Point ℝ) (err : Err) (h : D.componentAt realNum x p = .error err) :
    err = .domain ∨ err = .missing := by
  obtain ⟨P, w, hc, hP⟩ := wfd_differentialComponent hD x
  simp only [DifferentialObj.componentAt, hc, rmonad] at h
  exact wfd_partialAt hP p err h

theorem wfd_locatedNew {e : Expr ℝ} (hwf : WF e) (p : Point ℝ) (err : Err)
    (h : LocatedObj.new realNum e p = .error err) : err = .domain ∨ err = .missing :=
  wfd_numericPartials_error hwf (wfd_bind_pure_error h)

theorem wfd_differentialAt {D : DifferentialObj ℝ} (hD : D.WFInv) (p : Point ℝ) (err : Err)
    (h : D.at realNum p = .error err) : err = .domain ∨ err = .missing := by
  unfold DifferentialObj.at at h
  rcases R.bind_eq_error_iff.mp h with h | ⟨v, _, h⟩
  · exact wfd_evalG_error hD.1 h
  · cases hs : D.syn with
    | none =>
      simp only [hs] at h
      exact wfd_locatedNew hD.1 p err h
    | some d =>
      simp only [hs] at h
      exact wfd_evalAll_error (hD.2 d hs) (wfd_bind_pure_error h)

end Smooth
