/-
Proofs/NoEvenRootSym — symbolic differentiation keeps `NoEvenRoot` (Proofs/NoEvenRoot):
`symFwd` (forward symbolic mode, `_synthetic_partial`), `symRev` with its
accumulator (reverse symbolic mode, `_compute_synthetic_partials`) and every entry of
`syntheticPartials` (`_synthetic_partials()`).  The only formula that creates an `NthRoot` node is the
one of `NthRoot` itself, which re-uses the node (same degree) inside an `NthPower`.
An instance of Proofs/SymClosed, generic in the number record `N`.
-/
import Smooth.Proofs.NoEvenRoot
import Smooth.Proofs.SymReverse

namespace Smooth
open Expr
variable {α : Type}

theorem ner_symClosed (N : Num α) : SymClosed N (NoEvenRoot (α := α)) := by
  rw [ner_eq_paramOK]
  refine (everywhere_freshClosed fun x _ hn => ?_).symClosed N
  cases x with
  | nroot f u n => exact absurd rfl (hn f u n)
  | _ => trivial

theorem ner_symFwd (N : Num α) (x : String) : ∀ e : Expr α, NoEvenRoot e → NoEvenRoot (symFwd N x e) :=
  symFwd_closed (ner_symClosed N) x

theorem ner_symFwdList (N : Num α) (x : String) : ∀ es : List (Expr α),
    (∀ a ∈ es, NoEvenRoot a) → ∀ d ∈ symFwdList N x es, NoEvenRoot d :=
  fun _ => symFwdList_closed (ner_symClosed N) x

/-- every accumulated expression is free of even roots -/
def NerA (acc : SAcc α) : Prop := ∀ y s, SAcc.get? acc y = some s → NoEvenRoot s

theorem NerA_symRev (N : Num α) : ∀ (e m : Expr α) (acc : SAcc α), NoEvenRoot e → NoEvenRoot m →
    NerA acc → NerA (symRev N e m acc) :=
  symRev_closed (ner_symClosed N) (ner_symClosed N).all_addTo

theorem NerA_symRevList (N : Num α) : ∀ (es : List (Expr α)) (m : Expr α) (acc : SAcc α),
    (∀ a ∈ es, NoEvenRoot a) → NoEvenRoot m → NerA acc → NerA (symRevList N es m acc) :=
  fun _ _ => symRevList_closed (ner_symClosed N) (ner_symClosed N).all_addTo

theorem NerA_symRevMul (N : Num α) (all : List (Expr α)) (m : Expr α) : ∀ (i : Nat)
    (es : List (Expr α)) (acc : SAcc α), (∀ a ∈ all, NoEvenRoot a) → NoEvenRoot m →
    (∀ a ∈ es, NoEvenRoot a) → NerA acc → NerA (symRevMul N all m i es acc) :=
  fun i _ => symRevMul_closed (ner_symClosed N) (ner_symClosed N).all_addTo i

theorem ner_syntheticPartials (N : Num α) {e : Expr α} (h : NoEvenRoot e) {y : String} {s : Expr α}
    (hget : SAcc.get? (syntheticPartials N e) y = some s) : NoEvenRoot s :=
  syntheticPartials_closed (ner_symClosed N) h y s hget

end Smooth
