/-
Proofs/Order — nothing depends on the order in which a point's coordinates are written, nor on the
order in which the variable set or an accumulator is listed (C18).

In the model a point is an association list (`Point α`, lookup `Point.get?`), the variable set is the
list `e.vars`, accumulators are association lists (`Acc`, `SAcc`).  For any `N : Num α`, each of them
is used only through its lookups, and a permutation of a list with distinct names has the same
lookups.  `symFwd`, the rewrite rules, `stepF`, `normalizeF` take no point, no variable list and no
accumulator: there is no order they could depend on; of `symFwd` the file shows that it creates no
variable.
-/
import Smooth.Proofs.Coords
import Smooth.Proofs.SymClosed

namespace Smooth
open Expr
variable {α : Type}

theorem evalG_congr_point (N : Num α) {p q : Point α} (h : ∀ x, p.get? x = q.get? x)
    (e : Expr α) : evalG N p e = evalG N q e :=
  evalG_congr_occurs N e fun x _ => h x

theorem fwdG_congr_point (N : Num α) {p q : Point α} (h : ∀ x, p.get? x = q.get? x)
    (x : String) (e : Expr α) : fwdG N p x e = fwdG N q x e :=
  fwdG_congr_occurs N x e fun y _ => h y

theorem revG_congr_point (N : Num α) {p q : Point α} (h : ∀ x, p.get? x = q.get? x)
    (e : Expr α) (m : α) (acc : Acc α) : revG N p e m acc = revG N q e m acc :=
  revG_congr_occurs N e (fun y _ => h y) m acc

theorem numericPartials_congr_point (N : Num α) {p q : Point α} (h : ∀ x, p.get? x = q.get? x)
    (e : Expr α) : numericPartials N p e = numericPartials N q e :=
  numericPartials_congr_occurs N e fun y _ => h y

def Point.names (p : Point α) : List String := p.map Prod.fst

/-- lookups do not depend on the order of the coordinates (`hnd`: the names of a point are distinct,
being keyword arguments or dictionary keys) -/
theorem Point.get?_perm {p q : Point α} (h : p.Perm q) (hnd : p.names.Nodup) (x : String) :
    p.get? x = q.get? x := by
  induction h with
  | nil => rfl
  | cons a _ ih =>
    obtain ⟨y, v⟩ := a
    simp only [Point.names, List.map_cons, List.nodup_cons] at hnd
    simp only [Point.get?, ih hnd.2]
  | swap a b l =>
    obtain ⟨y, v⟩ := a
    obtain ⟨z, w⟩ := b
    simp only [Point.names, List.map_cons, List.nodup_cons, List.mem_cons, not_or] at hnd
    have hne : z ≠ y := hnd.1.1
    simp only [Point.get?]
    by_cases h1 : y = x
    · have h2 : ¬ z = x := fun h2 => hne (h2.trans h1.symm)
      simp [h1, h2]
    · simp [h1]
  | trans h1 _ ih1 ih2 =>
    rw [ih1 hnd]
    exact ih2 ((h1.map Prod.fst).nodup_iff.mp hnd)

theorem evalG_perm (N : Num α) {p q : Point α} (h : p.Perm q) (hnd : p.names.Nodup)
    (e : Expr α) : evalG N p e = evalG N q e :=
  evalG_congr_point N (Point.get?_perm h hnd) e

theorem fwdG_perm (N : Num α) {p q : Point α} (h : p.Perm q) (hnd : p.names.Nodup)
    (x : String) (e : Expr α) : fwdG N p x e = fwdG N q x e :=
  fwdG_congr_point N (Point.get?_perm h hnd) x e

theorem revG_perm (N : Num α) {p q : Point α} (h : p.Perm q) (hnd : p.names.Nodup)
    (e : Expr α) (m : α) (acc : Acc α) : revG N p e m acc = revG N q e m acc :=
  revG_congr_point N (Point.get?_perm h hnd) e m acc

theorem numericPartials_perm (N : Num α) {p q : Point α} (h : p.Perm q) (hnd : p.names.Nodup)
    (e : Expr α) : numericPartials N p e = numericPartials N q e :=
  numericPartials_congr_point N (Point.get?_perm h hnd) e

/-- `get_the_single_variable_name` as a function of the listed variable set -/
def singleOf (vs : List String) : R String :=
  match vs with
  | [] => pure "whatever"
  | [x] => pure x
  | _ => throw .usage

theorem singleVarName_eq_singleOf (e : Expr α) : singleVarName e = singleOf e.vars := rfl

theorem singleOf_perm {vs vs' : List String} (h : vs'.Perm vs) : singleOf vs' = singleOf vs := by
  match vs, vs', h with
  | [], vs', h => rw [List.perm_nil.mp h]
  | [x], vs', h => rw [List.perm_singleton.mp h]
  | a :: b :: l, vs', h =>
    have hl := h.length_eq
    match vs', hl with
    | c :: d :: l', _ => rfl

/-- `at(number)` is evaluation at any point that gives the value to every occurring variable
(there is at most one); in particular it does not matter which other coordinates are there, nor
under which name the value is supplied when no variable occurs. -/
theorem atNumber_eq_evalG (N : Num α) (e : Expr α) (t : α) (p : Point α)
    (hlen : e.vars.length ≤ 1) (hp : ∀ x, Occurs x e → p.get? x = some t) :
    atNumber N e t = evalG N p e := by
  unfold atNumber singleVarName
  match hv : e.vars, hlen with
  | [], _ =>
    exact evalG_congr_occurs N e fun x hx => by simpa [hv] using (mem_vars x e).mpr hx
  | [y], _ =>
    refine evalG_congr_occurs N e fun x hx => ?_
    obtain rfl : x = y := by simpa [hv] using (mem_vars x e).mpr hx
    rw [hp x hx, Point.get?_cons, if_pos rfl]

theorem atNumber_usage (N : Num α) (e : Expr α) (t : α) (h : 2 ≤ e.vars.length) :
    atNumber N e t = .error .usage := by
  unfold atNumber singleVarName
  match hv : e.vars, h with
  | _ :: _ :: _, _ => rfl

/-- the read-back of `_numeric_partials` over a list of names -/
def readBack (N : Num α) (acc : Acc α) (vs : List String) : Acc α :=
  vs.map fun x => (x, (acc.get? x).getD N.zero)

/-- `numericPartials` with the variable set listed as `vs` -/
def numericPartialsOver (N : Num α) (p : Point α) (e : Expr α) (vs : List String) : R (Acc α) := do
  let acc ← revG N p e N.one []
  pure (readBack N acc vs)

theorem numericPartials_eq_over (N : Num α) (p : Point α) (e : Expr α) :
    numericPartials N p e = numericPartialsOver N p e e.vars := rfl

theorem get?_readBack (N : Num α) (acc : Acc α) (vs : List String) (x : String) :
    Acc.get? (readBack N acc vs) x =
      if x ∈ vs then some ((acc.get? x).getD N.zero) else none :=
  Point.get?_map_self _ vs x

theorem readBack_perm (N : Num α) (acc : Acc α) {vs vs' : List String} (h : vs'.Perm vs)
    (x : String) : Acc.get? (readBack N acc vs') x = Acc.get? (readBack N acc vs) x := by
  simp only [get?_readBack, h.mem_iff]

/-- Read-back order: whatever the order in which the variable set is listed, the outcome is
the same error or a dictionary with the same entry for every name. -/
theorem numericPartialsOver_perm (N : Num α) (p : Point α) (e : Expr α) {vs' : List String}
    (h : vs'.Perm e.vars) (x : String) :
    (numericPartialsOver N p e vs').map (fun d => Acc.get? d x) =
      (numericPartials N p e).map (fun d => Acc.get? d x) := by
  rw [numericPartials_eq_over]
  unfold numericPartialsOver
  cases revG N p e N.one [] with
  | error _ => rfl
  | ok acc => exact congrArg Except.ok (readBack_perm N acc h x)

theorem numericPartials_get? (N : Num α) (p : Point α) (e : Expr α) {acc d : Acc α}
    (hacc : revG N p e N.one [] = .ok acc) (hd : numericPartials N p e = .ok d) (x : String) :
    Acc.get? d x = if x ∈ e.vars then some ((acc.get? x).getD N.zero) else none := by
  simp only [numericPartials, hacc, rmonad] at hd
  injection hd with hd
  subst hd
  exact get?_readBack N acc e.vars x

def AccEq (a b : Acc α) : Prop := ∀ x, Acc.get? a x = Acc.get? b x

def AccRel : R (Acc α) → R (Acc α) → Prop
  | .ok a, .ok b => AccEq a b
  | .error e, .error e' => e = e'
  | _, _ => False

theorem AccRel.refl (r : R (Acc α)) : AccRel r r := by
  cases r with
  | error e => exact rfl
  | ok a => exact fun _ => rfl

theorem AccRel.bind {r s : R (Acc α)} {k l : Acc α → R (Acc α)} (h : AccRel r s)
    (hk : ∀ a b, AccEq a b → AccRel (k a) (l b)) : AccRel (r >>= k) (s >>= l) := by
  cases r with
  | error e =>
    cases s with
    | error e' => exact h
    | ok b => exact h.elim
  | ok a =>
    cases s with
    | error e' => exact h.elim
    | ok b => exact hk a b h

theorem AccRel.bind_same {β : Type} (r : R β) {k l : β → R (Acc α)}
    (hk : ∀ a, AccRel (k a) (l a)) : AccRel (r >>= k) (r >>= l) := by
  cases r with
  | error e => exact rfl
  | ok a => exact hk a

theorem AccEq.addTo (N : Num α) {a b : Acc α} (h : AccEq a b) (x : String) (c : α) :
    AccEq (a.addTo N x c) (b.addTo N x c) := by
  intro y
  simp only [Acc.addTo, Acc.get?_set, h x, h y]

theorem revListG_congr_acc_of {N : Num α} {p : Point α} {es : List (Expr α)}
    (h : ∀ e ∈ es, ∀ m a b, AccEq a b → AccRel (revG N p e m a) (revG N p e m b)) (m : α)
    (a b : Acc α) (hab : AccEq a b) : AccRel (revListG N p es m a) (revListG N p es m b) := by
  induction es generalizing a b with
  | nil => exact hab
  | cons e es ih =>
    simp only [revListG]
    exact AccRel.bind (h e List.mem_cons_self m a b hab)
      (ih fun a ha => h a (List.mem_cons_of_mem _ ha))

theorem revMulG_congr_acc_of {N : Num α} {p : Point α} {es : List (Expr α)}
    (h : ∀ e ∈ es, ∀ m a b, AccEq a b → AccRel (revG N p e m a) (revG N p e m b)) (vs : List α)
    (m : α) (i : Nat) (a b : Acc α) (hab : AccEq a b) :
    AccRel (revMulG N p vs m i es a) (revMulG N p vs m i es b) := by
  induction es generalizing i a b with
  | nil => exact hab
  | cons e es ih =>
    simp only [revMulG]
    exact AccRel.bind (h e List.mem_cons_self _ a b hab)
      (ih (fun a ha => h a (List.mem_cons_of_mem _ ha)) (i + 1))

theorem revG_congr_acc (N : Num α) (p : Point α) (e : Expr α) (m : α) (a b : Acc α)
    (h : AccEq a b) : AccRel (revG N p e m a) (revG N p e m b) := by
  induction e using Expr.ind generalizing m a b with
  | const f v => exact h
  | var f y => exact AccEq.addTo N h y m
  | add f as ih =>
    simp only [revG]
    exact revListG_congr_acc_of ih m a b h
  | mul f as ih =>
    simp only [revG]
    exact AccRel.bind_same _ fun vs => revMulG_congr_acc_of ih vs m 0 a b h
  | minus f l r ihl ihr =>
    simp only [revG]
    exact AccRel.bind (ihl m a b h) (ihr _)
  | div f l r ihl ihr =>
    simp only [revG]
    exact AccRel.bind_same _ fun _ => AccRel.bind_same _ fun _ => AccRel.bind_same _ fun _ =>
      AccRel.bind_same _ fun ml => AccRel.bind_same _ fun mr =>
      AccRel.bind (ihl ml a b h) (ihr mr)
  | pow f l r ihl ihr =>
    simp only [revG]
    refine AccRel.bind_same _ fun c => ?_
    split
    · exact AccRel.bind_same _ fun _ => h
    · exact AccRel.bind_same _ fun _ => AccRel.bind_same _ fun _ => AccRel.bind_same _ fun _ =>
        AccRel.bind_same _ fun ml => AccRel.bind_same _ fun mr =>
        AccRel.bind (ihl ml a b h) (ihr mr)
  | neg f u ih | recip f u ih | npow f u n ih | nroot f u n ih | exp f u c ih | log f u c ih
  | cos f u ih | sin f u ih =>
    simp only [revG]
    exact AccRel.bind_same _ fun _ => AccRel.bind_same _ fun _ => AccRel.bind_same _ fun m' =>
      ih m' a b h

theorem revListG_congr_acc (N : Num α) (p : Point α) : ∀ (es : List (Expr α)) (m : α)
    (a b : Acc α), AccEq a b → AccRel (revListG N p es m a) (revListG N p es m b) :=
  fun _ => revListG_congr_acc_of fun e _ => revG_congr_acc N p e

theorem revMulG_congr_acc (N : Num α) (p : Point α) : ∀ (es : List (Expr α)) (vs : List α)
    (m : α) (i : Nat) (a b : Acc α), AccEq a b →
      AccRel (revMulG N p vs m i es a) (revMulG N p vs m i es b) :=
  fun _ => revMulG_congr_acc_of fun e _ => revG_congr_acc N p e

/-- the read-back of `_synthetic_partials` over a list of names -/
def symReadBack (N : Num α) (acc : SAcc α) (vs : List String) : SAcc α :=
  vs.map fun x => (x, (acc.get? x).getD (mkConst N.zero))

/-- `syntheticPartials` with the variable set listed as `vs` -/
def syntheticPartialsOver (N : Num α) (e : Expr α) (vs : List String) : SAcc α :=
  symReadBack N (symRev N e (mkConst N.one) []) vs

theorem syntheticPartials_eq_over (N : Num α) (e : Expr α) :
    syntheticPartials N e = syntheticPartialsOver N e e.vars := rfl

theorem get?_symReadBack (N : Num α) (acc : SAcc α) (vs : List String) (x : String) :
    SAcc.get? (symReadBack N acc vs) x =
      if x ∈ vs then some ((acc.get? x).getD (mkConst N.zero)) else none :=
  (SAcc.get?_eq _ x).trans (Point.get?_map_self _ vs x)

/-- Read-back order, symbolic: listing the variable set in another order gives the same
expression for every name. -/
theorem syntheticPartialsOver_perm (N : Num α) (e : Expr α) {vs' : List String}
    (h : vs'.Perm e.vars) (x : String) :
    SAcc.get? (syntheticPartialsOver N e vs') x = SAcc.get? (syntheticPartials N e) x := by
  rw [syntheticPartials_eq_over]
  simp only [syntheticPartialsOver, get?_symReadBack, h.mem_iff]

theorem occ_freshClosed (V : String → Prop) : FreshClosed fun s : Expr α => ∀ x, Occurs x s → V x where
  operands {e} h := by
    cases e with
    | const f v | var f y => trivial
    | add f as | mul f as =>
      exact fun a ha x hx => h x ((occursList_iff x as).mpr ⟨a, ha, hx⟩)
    | minus f l r | div f l r | pow f l r =>
      exact ⟨fun x hx => h x (Or.inl hx), fun x hx => h x (Or.inr hx)⟩
    | _ => exact h
  const _ := fun _ hx => hx.elim
  add h := fun x hx => by
    obtain ⟨a, ha, hxa⟩ := (occursList_iff x _).mp hx
    exact h a ha x hxa
  mul h := fun x hx => by
    obtain ⟨a, ha, hxa⟩ := (occursList_iff x _).mp hx
    exact h a ha x hxa
  minus hl hr := fun x hx => hx.elim (hl x) (hr x)
  neg h := h
  div hl hr := fun x hx => hx.elim (hl x) (hr x)
  pow hl hr := fun x hx => hx.elim (hl x) (hr x)
  npow _ h := h
  log _ h := h
  cos h := h
  sin h := h

theorem occ_symClosed (N : Num α) (V : String → Prop) :
    SymClosed N fun s => ∀ x, Occurs x s → V x :=
  (occ_freshClosed V).symClosed N

theorem occurs_symFwd (N : Num α) (x x' : String) (e : Expr α)
    (h : Occurs x' (symFwd N x e)) : Occurs x' e :=
  symFwd_closed (occ_symClosed N fun z => Occurs z e) x e (fun _ hz => hz) x' h

theorem occursList_symFwdList (N : Num α) (x x' : String) : ∀ es : List (Expr α),
    OccursList x' (symFwdList N x es) → OccursList x' es := by
  intro es h
  obtain ⟨d, hd, hx⟩ := (occursList_iff x' _).mp h
  exact symFwdList_closed (occ_symClosed N fun z => OccursList z es) x
    (fun a ha z hz => (occursList_iff z es).mpr ⟨a, ha, hz⟩) d hd x' hx

theorem vars_symFwd_subset (N : Num α) (x : String) (e : Expr α) {x' : String}
    (h : x' ∈ (symFwd N x e).vars) : x' ∈ e.vars :=
  (mem_vars x' e).mpr (occurs_symFwd N x x' e ((mem_vars x' _).mp h))

end Smooth
