/-
Proofs/RoutesRun — runs of the rewriter over the reals for C06, replayed as in Proofs/SymForwardRun:
* `Sine(Negation(y))`, the K2 witness: the early `Differential` (reverse symbolic route) returns
  `Negation(Cosine(y))` for the component `y`, the late one (forward symbolic route)
  `Multiply(Cosine(y), Constant(-1))`: different trees, the same function;
* `x * y`: the forward symbolic partial with respect to `x`; with `symrevEx_*` of Proofs/SymReverse
  every hypothesis of the on-domain theorem holds for a two-variable expression;
* `Reciprocal(y)`: forward and reverse raw partials are the same tree; an expression with points
  inside and outside its domain that meets the K1 and fuel hypotheses.
-/
import Smooth.Proofs.Routes
import Smooth.Proofs.SymForwardRun

namespace Smooth
open Expr

/-- the raw reverse-symbolic partial of `Sine(Negation(y))` -/
noncomputable def runK2ryE0 : Expr ℝ :=
  mkNeg (mkMul [mkCos (mkNeg (mkVar "y")), mkConst 1])

noncomputable def runK2ryReduced : Expr ℝ :=
  .neg .reduced (.mul .reduced [.cos .reduced (.var .reduced "y")])

def runK2ryEvs : List StepEvent :=
  [.flag, .flag, .rule .cosNeg, .flag, .flag, .rule .mulOnes, .flag, .flag]

/-- the raw forward-symbolic partial of `Sine(Negation(y))` -/
noncomputable def runK2fE0 : Expr ℝ :=
  mkMul [mkCos (mkNeg (mkVar "y")), mkNeg (mkConst 1)]

noncomputable def runK2fReduced : Expr ℝ :=
  .mul .reduced [.cos .reduced (.var .reduced "y"), .const .reduced (-1)]

def runK2fEvs : List StepEvent :=
  [.flag, .flag, .rule .cosNeg, .flag, .fold, .flag, .flag]

theorem runK2_cosNeg :
    ReplaySteps realNum (mkCos (mkNeg (mkVar "y"))) [.flag, .flag, .rule .cosNeg, .flag]
      (.cos .reduced (.var .reduced "y")) :=
  (ReplaySteps.var "y").congr isCtx_neg
    |>.append (.flag rfl (by decide) rfl)
    |>.congr isCtx_cos
    |>.append (.rule .cosNeg rfl (by decide) rfl)
    |>.append (.flag rfl (by decide) rfl)

theorem runK2ry_steps : ReplaySteps realNum runK2ryE0 runK2ryEvs runK2ryReduced :=
  runK2_cosNeg.congr (isCtx_mul [] _ rfl)
    |>.append ((isCtx_mul [_] [] rfl).const 1 (by decide))
    |>.append (.rule .mulOnes rfl (by decide) (stepF_cos_mul_one "y"))
    |>.append (.flag rfl (by decide) rfl)
    |>.congr isCtx_neg
    |>.append (.flag rfl (by decide) rfl)

theorem runK2f_neg_one :
    stepF realNum (mkNeg (mkConst (1 : ℝ))) = (mkConst (-1), .fold) := by
  simp [stepF, stepNode, foldAttempt, isConstNode, isRed, Expr.flags, vars, varsAux, evalG,
    mfNegation, bind, Except.bind, pure, Except.pure]

theorem runK2f_cos_negOne :
    stepF realNum (mkMul [.cos .reduced (.var .reduced "y"), .const .reduced (-1)]) =
      ((mkMul [.cos .reduced (.var .reduced "y"), .const .reduced (-1)]).markRed, .flag) := by
  rw [stepF_mul_top rfl (by decide) rfl]
  replay_step_simp

theorem runK2f_steps : ReplaySteps realNum runK2fE0 runK2fEvs runK2fReduced :=
  runK2_cosNeg.congr (isCtx_mul [] _ rfl)
    |>.append ((isCtx_mul [_] [] rfl).single (by decide) rfl runK2f_neg_one)
    |>.append ((isCtx_mul [_] [] rfl).const (-1) (by decide))
    |>.append (.flag rfl (by decide) runK2f_cos_negOne)

/-- the raw forward-symbolic partial of `x * y` with respect to `x` -/
noncomputable def runXYfE0 : Expr ℝ :=
  mkAdd [mkMul [mkConst 1, mkVar "y"], mkMul [mkConst 0, mkVar "x"]]

noncomputable def runXYfReduced : Expr ℝ :=
  .add .reduced [.mul .reduced [.var .reduced "y"]]

def runXYfEvs : List StepEvent :=
  [.flag, .flag, .rule .mulOnes, .flag, .flag, .flag, .rule .mulZero, .flag, .rule .addZeros, .flag]

theorem runXYf_zero_x :
    stepF realNum (mkMul [.const .reduced 0, .var .reduced "x"]) =
      (mkConst 0, .rule .mulZero) := by
  rw [stepF_mul_top rfl (by decide) rfl]
  replay_step_simp

theorem runXYf_y_zero :
    stepF realNum (mkAdd [.mul .reduced [.var .reduced "y"], .const .reduced 0]) =
      (mkAdd [.mul .reduced [.var .reduced "y"]], .rule .addZeros) := by
  rw [stepF_add_top rfl (by decide) rfl]
  replay_step_simp

theorem runXYf_steps : ReplaySteps realNum runXYfE0 runXYfEvs runXYfReduced :=
  (isCtx_mul [] _ rfl).const 1 (by decide)
    |>.append ((ReplaySteps.var "y").congr (isCtx_mul [_] [] rfl))
    |>.append (.rule .mulOnes rfl (by decide) (stepF_one_mul_var "y"))
    |>.append (.flag rfl (by decide) rfl)
    |>.congr (isCtx_add [] _ rfl)
    |>.append ((isCtx_mul [] _ rfl).const 0 (by decide)
      |>.append ((ReplaySteps.var "x").congr (isCtx_mul [_] [] rfl))
      |>.append (.rule .mulZero rfl (by decide) runXYf_zero_x)
      |>.congr (isCtx_add [_] [] rfl))
    |>.append ((isCtx_add [_] [] rfl).const 0 (by decide))
    |>.append (.rule .addZeros rfl (by decide) runXYf_y_zero)
    |>.append (.flag rfl (by decide) rfl)

/-- the raw symbolic partial of `Reciprocal(y)`, forward and reverse -/
noncomputable def runRcE0 : Expr ℝ :=
  mkNeg (mkDiv (mkConst 1) (mkNPow (mkVar "y") 2))

noncomputable def runRcReduced : Expr ℝ :=
  .neg .reduced (.mul .reduced [.recip .reduced (.npow .reduced (.var .reduced "y") 2)])

def runRcEvs : List StepEvent :=
  [.flag, .flag, .flag, .rule .divToMul, .flag, .rule .mulOnes, .flag, .flag]

theorem runRc_one_recip :
    stepF realNum
        (mkMul [.const .reduced 1, .recip .reduced (.npow .reduced (.var .reduced "y") 2)]) =
      (mkMul [.recip .reduced (.npow .reduced (.var .reduced "y") 2)], .rule .mulOnes) := by
  rw [stepF_mul_top rfl (by decide) rfl]
  replay_step_simp

theorem runRc_steps : ReplaySteps realNum runRcE0 runRcEvs runRcReduced :=
  (isCtx_div_left _).const 1 (by decide)
    |>.append ((ReplaySteps.var "y").congr (isCtx_npow 2)
      |>.append (.flag rfl (by decide) rfl)
      |>.congr (isCtx_div_right rfl))
    |>.append (.rule .divToMul rfl (by decide) rfl)
    |>.append ((ReplaySteps.flag rfl (by decide) rfl).congr (isCtx_mul [_] [] rfl))
    |>.append (.rule .mulOnes rfl (by decide) runRc_one_recip)
    |>.append (.flag rfl (by decide) rfl)
    |>.congr isCtx_neg
    |>.append (.flag rfl (by decide) rfl)

/-- the K2 witness -/
abbrev runK2Expr : Expr ℝ := mkSin (mkNeg (mkVar "y"))

theorem runK2_partials : syntheticPartials realNum runK2Expr = [("y", runK2ryE0)] := by
  simp [runK2Expr, syntheticPartials, symRev, unarySymFormula, SAcc.addTo, SAcc.get?, SAcc.set, vars,
    varsAux, runK2ryE0]

theorem runK2_symFwd : symFwd realNum "y" runK2Expr = runK2fE0 := by
  simp [symFwd, unarySymFormula, runK2fE0]

theorem runK2ry_normOK (fuel : Nat) : NormOK K1FreeAt REDUCTION_STEPS_BOUND fuel runK2ryE0 :=
  runK2ry_steps.normOK (by simp [runK2ryReduced, AllFlagged, AllFlaggedList]) (by decide) (by decide)
    fuel

theorem runK2f_normOK (fuel : Nat) : NormOK K1FreeAt REDUCTION_STEPS_BOUND fuel runK2fE0 :=
  runK2f_steps.normOK (by simp [runK2fReduced, AllFlagged, AllFlaggedList]) (by decide) (by decide)
    fuel

theorem runK2ry_normalize :
    normalize realNum runK2ryE0 = some (mkNeg (mkCos (mkVar "y")), false) :=
  runK2ry_steps.normalize rfl (by decide) rfl

theorem runK2f_normalize :
    normalize realNum runK2fE0 = some (mkMul [mkCos (mkVar "y"), mkConst (-1)], false) :=
  runK2f_steps.normalize rfl (by decide) rfl

theorem runK2_K1Rev : RoutesK1Rev runK2Expr := by
  rw [RoutesK1Rev, runK2_partials]
  exact SAcc.All.of_mem (List.forall_mem_singleton.mpr (runK2ry_normOK _))

theorem runK2_fuelRev : RoutesFuelRev runK2Expr := by
  rw [RoutesFuelRev, runK2_partials]
  exact SAcc.All.of_mem (List.forall_mem_singleton.mpr ⟨_, runK2ry_normalize⟩)

theorem runK2_K1Fwd :
    NormOK K1FreeAt REDUCTION_STEPS_BOUND NORMALIZE_FUEL (symFwd realNum "y" runK2Expr) :=
  runK2_symFwd ▸ runK2f_normOK _

theorem runK2_fuelFwd : RoutesFuelFwd runK2Expr "y" :=
  ⟨_, runK2_symFwd ▸ runK2f_normalize⟩

/-- `Differential(Sine(Negation(y)), compute_early=True).component("y").as_expression()` is
`Negation(Cosine(y))` -/
theorem runK2_exprFE :
    routeExprFE realNum runK2Expr "y" = .ok (mkNeg (mkCos (mkVar "y")), false) := by
  rw [routeExprFE_eq, runK2_partials]
  simp [normalizeAll, runK2ry_normalize, liftFuel, SAcc.get?, bind, Except.bind, pure, Except.pure]

/-- `Differential(Sine(Negation(y))).component("y").as_expression()` is
`Multiply(Cosine(y), Constant(-1))` -/
theorem runK2_exprFL :
    routeExprFL realNum runK2Expr "y" = .ok (mkMul [mkCos (mkVar "y"), mkConst (-1)], false) := by
  rw [routeExprFL_eq]
  simp [retrieveSyntheticPartial, runK2_symFwd, runK2f_normalize, liftFuel, pure, Except.pure]

theorem runK2_trees_differ :
    (mkNeg (mkCos (mkVar "y")) : Expr ℝ) ≠ mkMul [mkCos (mkVar "y"), mkConst (-1)] := by
  intro h; cases h

abbrev runXYExpr : Expr ℝ := mkMul [mkVar "x", mkVar "y"]

theorem runXY_symFwd : symFwd realNum "x" runXYExpr = runXYfE0 := by
  simp [symFwd, symFwdList, symMulTerms, symMulTermsGo, runXYfE0]

theorem runXYf_normOK (fuel : Nat) : NormOK K1FreeAt REDUCTION_STEPS_BOUND fuel runXYfE0 :=
  runXYf_steps.normOK (by simp [runXYfReduced, AllFlagged, AllFlaggedList]) (by decide) (by decide)
    fuel

theorem runXYf_normalize : normalize realNum runXYfE0 = some (mkVar "y", false) :=
  runXYf_steps.normalize rfl (by decide) rfl

theorem runXY_K1Fwd :
    NormOK K1FreeAt REDUCTION_STEPS_BOUND NORMALIZE_FUEL (symFwd realNum "x" runXYExpr) :=
  runXY_symFwd ▸ runXYf_normOK _

theorem runXY_fuelFwd : RoutesFuelFwd runXYExpr "x" :=
  ⟨_, runXY_symFwd ▸ runXYf_normalize⟩

theorem runXY_K1Rev : RoutesK1Rev runXYExpr := symrevEx_hok "x" "y" (by decide)

theorem runXY_fuelRev : RoutesFuelRev runXYExpr := by
  rw [RoutesFuelRev, symrevEx_partials "x" "y" (by decide)]
  exact SAcc.All.of_mem (List.forall_mem_cons.mpr
    ⟨⟨_, symrevEx_normalize "y"⟩, List.forall_mem_singleton.mpr ⟨_, symrevEx_normalize "x"⟩⟩)

abbrev runRcExpr : Expr ℝ := mkRecip (mkVar "y")

theorem runRc_partials : syntheticPartials realNum runRcExpr = [("y", runRcE0)] := by
  simp [runRcExpr, syntheticPartials, symRev, unarySymFormula, SAcc.addTo, SAcc.get?, SAcc.set, vars,
    varsAux, runRcE0]

theorem runRc_symFwd : symFwd realNum "y" runRcExpr = runRcE0 := by
  simp [symFwd, unarySymFormula, runRcE0]

theorem runRc_normOK (fuel : Nat) : NormOK K1FreeAt REDUCTION_STEPS_BOUND fuel runRcE0 :=
  runRc_steps.normOK (by simp [runRcReduced, AllFlagged, AllFlaggedList]) (by decide) (by decide) fuel

theorem runRc_fullyReduce :
    fullyReduceWith realNum REDUCTION_STEPS_BOUND runRcE0 =
      ⟨runRcReduced, false, runRcEvs.length, runRcEvs⟩ :=
  runRc_steps.fullyReduce rfl (by decide)

theorem runRc_normalize :
    normalize realNum runRcE0 = some (mkNeg (mkRecip (mkNPow (mkVar "y") 2)), false) :=
  runRc_steps.normalize rfl (by decide) rfl

theorem runRc_K1Rev : RoutesK1Rev runRcExpr := by
  rw [RoutesK1Rev, runRc_partials]
  exact SAcc.All.of_mem (List.forall_mem_singleton.mpr (runRc_normOK _))

theorem runRc_fuelRev : RoutesFuelRev runRcExpr := by
  rw [RoutesFuelRev, runRc_partials]
  exact SAcc.All.of_mem (List.forall_mem_singleton.mpr ⟨_, runRc_normalize⟩)

theorem runRc_K1Fwd :
    NormOK K1FreeAt REDUCTION_STEPS_BOUND NORMALIZE_FUEL (symFwd realNum "y" runRcExpr) :=
  runRc_symFwd ▸ runRc_normOK _

theorem runRc_fuelFwd : RoutesFuelFwd runRcExpr "y" := ⟨_, runRc_symFwd ▸ runRc_normalize⟩

/-- the K1 hypotheses of the on-domain theorem cannot be dropped: for `|x| = NthRoot(NthPower(x, 2), 2)`
at `x = -3` (a supplied point of the domain) the late `Partial` answers the true partial `-1`, the
early one and the late one after `as_expression()` answer `+1` -/
theorem runK1_routes_disagree :
    routePL realNum (mkNRoot (mkNPow (mkVar "x") 2) 2) "x" [("x", (-3 : ℝ))] = .ok (-1) ∧
      routePE realNum (mkNRoot (mkNPow (mkVar "x") 2) 2) "x" [("x", (-3 : ℝ))] = .ok 1 ∧
      routePA realNum (mkNRoot (mkNPow (mkVar "x") 2) 2) "x" [("x", (-3 : ℝ))] = .ok 1 := by
  obtain ⟨hwf, hs, hd, hfd⟩ := runK1_true_partial
  have hvia : routeViaStored realNum (mkNRoot (mkNPow (mkVar "x") 2) 2) "x" [("x", (-3 : ℝ))] =
      .ok 1 := by
    simp only [routeViaStored, (asExpression_late runK1_asExpression).1, routes_evalG_ok hwf hs hd, bind,
      Except.bind]
    exact runK1_returned_value
  exact ⟨by rw [routePL_eq]; exact hfd, by rw [routePE_eq]; exact hvia,
    by rw [routePA_eq]; exact hvia⟩

end Smooth
