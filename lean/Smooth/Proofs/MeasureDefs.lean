/-
Proofs/MeasureDefs — a well-founded measure that every call of `stepF` on an unflagged expression
strictly decreases (property C11).

  mu e = (A, B, w, P, U)   ordered lexicographically, with
   A = number of Power / Minus / Divide nodes,
   B = number of NthPower / NthRoot / Exponential / Logarithm nodes,
   w = a weight (leaves 2, every constant the same) that is strictly monotone in every operand,
   P = the sum of the parameters `n` of all NthPower / NthRoot nodes,
   U = the number of nodes whose `red` flag is not set.

The file is generic over the number record `N : Num α`: the measure never looks at a number.
-/
import Mathlib.Tactic.Linarith
import Mathlib.Data.Prod.Lex
import Smooth.Proofs.RuleInv

namespace Smooth
open Expr
variable {α : Type}

def rootA : Expr α → Nat
  | .pow _ _ _ | .minus _ _ _ | .div _ _ _ => 1
  | _ => 0

def rootB : Expr α → Nat
  | .npow _ _ _ | .nroot _ _ _ | .exp _ _ _ | .log _ _ _ => 1
  | _ => 0

def rootP : Expr α → Nat
  | .npow _ _ n | .nroot _ _ n => n
  | _ => 0

def rootU (e : Expr α) : Nat := if e.flags.red then 0 else 1

mutual
/-- sum over all nodes of a per-node cost -/
def total (c : Expr α → Nat) : Expr α → Nat
  | .const f v => c (.const f v)
  | .var f x => c (.var f x)
  | .add f as => c (.add f as) + totalList c as
  | .mul f as => c (.mul f as) + totalList c as
  | .minus f l r => c (.minus f l r) + total c l + total c r
  | .div f l r => c (.div f l r) + total c l + total c r
  | .pow f l r => c (.pow f l r) + total c l + total c r
  | .neg f u => c (.neg f u) + total c u
  | .recip f u => c (.recip f u) + total c u
  | .npow f u n => c (.npow f u n) + total c u
  | .nroot f u n => c (.nroot f u n) + total c u
  | .exp f u b => c (.exp f u b) + total c u
  | .log f u b => c (.log f u b) + total c u
  | .cos f u => c (.cos f u) + total c u
  | .sin f u => c (.sin f u) + total c u
def totalList (c : Expr α → Nat) : List (Expr α) → Nat
  | [] => 0
  | e :: es => total c e + totalList c es
end

mutual
/-- the weight: leaves 2; strictly monotone in every operand; independent of every number.  The
coefficients make a `Negation` or a `Reciprocal` dearer inside an operand than around the node, for the
rules that pull one outwards: `(3x)² > 3x²` (`sinNeg`, `nrootNeg`, and with the linear terms `recipNeg`,
`npowNeg`), `3x + 1 > x + 1` (`cosNeg`), `x² + 2x > 3x` (`logRecip`), `2^(3x) > (2^x)² + 2·2^x` (`expNeg`;
`powNegExp`, `powRecipBase` alike), `(x² + 2x)² > x⁴ + 2x²` (`nrootRecip`; `npowRecip` alike),
`(x² + x)² > x⁴ + x²` (`nrootPow`), `(Σ + 3)² + 2(Σ + 3) > Σ(x² + 2x) + 3` (`recipProd`). -/
def wt : Expr α → Nat
  | .const _ _ | .var _ _ => 2
  | .add _ as | .mul _ as => wtList as + 3
  | .neg _ u => 3 * wt u
  | .recip _ u => wt u * wt u + 2 * wt u
  | .npow _ u _ => wt u * wt u + wt u
  | .nroot _ u _ | .sin _ u => wt u * wt u
  | .cos _ u => wt u + 1
  | .log _ u _ => wt u
  | .exp _ u _ => 2 ^ wt u
  | .pow _ l r => 2 ^ (wt l * wt r)
  | .minus _ l r | .div _ l r => wt l + wt r + 1
def wtList : List (Expr α) → Nat
  | [] => 0
  | e :: es => wt e + wtList es
end

/-- `A`: the number of `Power`, `Minus` and `Divide` nodes -/
abbrev cA (e : Expr α) : Nat := total rootA e
/-- `B`: the number of `NthPower`, `NthRoot`, `Exponential` and `Logarithm` nodes -/
abbrev cB (e : Expr α) : Nat := total rootB e
/-- `P`: the sum of the exponents and degrees of all `NthPower` and `NthRoot` nodes -/
abbrev cP (e : Expr α) : Nat := total rootP e
/-- `U`: the number of nodes whose `red` flag is not set -/
abbrev cU (e : Expr α) : Nat := total rootU e

def mu (e : Expr α) : ℕ ×ₗ ℕ ×ₗ ℕ ×ₗ ℕ ×ₗ ℕ :=
  toLex (cA e, toLex (cB e, toLex (wt e, toLex (cP e, cU e))))

/-- lexicographic comparison of two 5-tuples, spelled out -/
def LexLt (a b c d e a' b' c' d' e' : Nat) : Prop :=
  a < a' ∨ (a = a' ∧ (b < b' ∨ (b = b' ∧ (c < c' ∨ (c = c' ∧ (d < d' ∨ (d = d' ∧ e < e')))))))

/-- `mu e' < mu e`, spelled out -/
def MuLt (e' e : Expr α) : Prop :=
  LexLt (cA e') (cB e') (wt e') (cP e') (cU e') (cA e) (cB e) (wt e) (cP e) (cU e)

/-- the same for child lists -/
def MuLtList (as' as : List (Expr α)) : Prop :=
  LexLt (totalList rootA as') (totalList rootB as') (wtList as') (totalList rootP as')
    (totalList rootU as') (totalList rootA as) (totalList rootB as) (wtList as)
    (totalList rootP as) (totalList rootU as)

theorem mu_lt_iff (e' e : Expr α) : mu e' < mu e ↔ MuLt e' e := by
  simp only [mu, MuLt, LexLt, Prod.Lex.toLex_lt_toLex]

section LexLt
variable {a b c d e a' b' c' d' e' : Nat}

theorem LexLt.ofA (h : a < a') : LexLt a b c d e a' b' c' d' e' := Or.inl h

theorem LexLt.ofB (hA : a ≤ a') (h : b < b') : LexLt a b c d e a' b' c' d' e' := by
  unfold LexLt; omega

theorem LexLt.ofW (hA : a ≤ a') (hB : b ≤ b') (h : c < c') : LexLt a b c d e a' b' c' d' e' := by
  unfold LexLt; omega

theorem LexLt.ofP (hA : a ≤ a') (hB : b ≤ b') (hW : c ≤ c') (h : d < d') :
    LexLt a b c d e a' b' c' d' e' := by
  unfold LexLt; omega

theorem LexLt.ofU (hA : a ≤ a') (hB : b ≤ b') (hW : c ≤ c') (hP : d ≤ d') (h : e < e') :
    LexLt a b c d e a' b' c' d' e' := by
  unfold LexLt; omega

/-- congruence: the additive components are shifted by a constant, the weight goes through a
strictly monotone function -/
theorem LexLt.congr {x y z u v x' y' z' u' v' : Nat} (h : LexLt a b c d e a' b' c' d' e')
    (hA : x + a' = x' + a) (hB : y + b' = y' + b)
    (hW : c < c' → z < z') (hW' : c = c' → z = z')
    (hP : u + d' = u' + d) (hU : v + e' = v' + e) :
    LexLt x y z u v x' y' z' u' v' := by
  unfold LexLt at h ⊢
  rcases h with h | ⟨h1, h | ⟨h2, h | ⟨h3, h | ⟨h4, h⟩⟩⟩⟩
  · left; omega
  · right; exact ⟨by omega, Or.inl (by omega)⟩
  · right; exact ⟨by omega, Or.inr ⟨by omega, Or.inl (hW h)⟩⟩
  · right; exact ⟨by omega, Or.inr ⟨by omega, Or.inr ⟨hW' h3, Or.inl (by omega)⟩⟩⟩
  · right; exact ⟨by omega, Or.inr ⟨by omega, Or.inr ⟨hW' h3, Or.inr ⟨by omega, by omega⟩⟩⟩⟩

end LexLt

theorem totalList_eq_sum (c : Expr α → Nat) (as : List (Expr α)) :
    totalList c as = (as.map (total c)).sum := by
  induction as with
  | nil => rfl
  | cons e es ih => simp only [totalList, ih, List.map_cons, List.sum_cons]

theorem wtList_eq_sum (as : List (Expr α)) : wtList as = (as.map wt).sum := by
  induction as with
  | nil => rfl
  | cons e es ih => simp only [wtList, ih, List.map_cons, List.sum_cons]

theorem two_le_wt (e : Expr α) : 2 ≤ wt e := by
  induction e using Expr.ind with
  | const | var | add | mul => simp only [wt]; omega
  | neg _ _ ih | cos _ _ ih | log _ _ _ ih | minus _ _ _ ih | div _ _ _ ih => simp only [wt]; omega
  | recip _ _ ih | npow _ _ _ ih | nroot _ _ _ ih | sin _ _ ih =>
    have := Nat.mul_le_mul ih ih
    simp only [wt]; omega
  | exp _ _ _ ih => simp only [wt]; exact Nat.one_lt_two_pow (by omega)
  | pow _ _ _ ihl ihr =>
    simp only [wt]; exact Nat.one_lt_two_pow (Nat.mul_ne_zero (by omega) (by omega))

theorem sum_map_const_add {β : Type} (a : Nat) (f : β → Nat) (l : List β) :
    (l.map fun p => a + f p).sum = a * l.length + (l.map f).sum := by
  induction l with
  | nil => rfl
  | cons x xs ih =>
    simp only [List.map_cons, List.sum_cons, List.length_cons, ih, Nat.mul_succ]; omega

theorem sum_map_const {β : Type} (a : Nat) (l : List β) : (l.map fun _ => a).sum = a * l.length := by
  induction l with
  | nil => rfl
  | cons x xs ih => simp only [List.map_cons, List.sum_cons, List.length_cons, ih, Nat.mul_succ]; omega

theorem sum_filter_filterMap {κ : Type} (sel : Expr α → Option κ) (f : Expr α → Nat) (g : κ → Nat)
    (hg : ∀ e k, sel e = some k → f e = g k) (as : List (Expr α)) :
    (as.map f).sum =
      ((as.filter fun e => (sel e).isNone).map f).sum + ((as.filterMap sel).map g).sum := by
  induction as with
  | nil => rfl
  | cons e es ih =>
    simp only [List.map_cons, List.sum_cons, List.filter_cons, List.filterMap_cons, ih]
    cases h : sel e with
    | none => simp only [Option.isNone_none, if_true, List.map_cons, List.sum_cons]; omega
    | some k =>
      simp only [Option.isNone_some, Bool.false_eq_true, if_false, List.map_cons, List.sum_cons,
        hg e k h]
      omega

theorem spliceFirst_sum {sel : Expr α → Option (List (Expr α))} (f : Expr α → Nat) (k : Nat)
    (hsel : ∀ e inner, sel e = some inner → f e = (inner.map f).sum + k) {as as' : List (Expr α)}
    (h : spliceFirst sel as = some as') : (as.map f).sum = (as'.map f).sum + k := by
  obtain ⟨pre, e, inner, post, rfl, -, he, rfl⟩ := spliceFirst_eq_some.mp h
  simp only [List.map_append, List.map_cons, List.sum_append, List.sum_cons, hsel e inner he]
  omega

theorem sum_map_flatMap {β γ : Type} (f : γ → Nat) (g : β → List γ) (l : List β) :
    ((l.flatMap g).map f).sum = (l.map fun b => ((g b).map f).sum).sum := by
  induction l with
  | nil => rfl
  | cons b l ih =>
    simp only [List.flatMap_cons, List.map_append, List.sum_append, List.map_cons, List.sum_cons, ih]

theorem length_lt_sum {l : List Nat} (h1 : ∀ n ∈ l, 1 ≤ n) :
    l.length ≤ l.sum ∧ ((∃ n ∈ l, 1 < n) → l.length < l.sum) := by
  induction l with
  | nil => exact ⟨Nat.le_refl _, nofun⟩
  | cons n l ih =>
    rw [List.forall_mem_cons] at h1
    obtain ⟨ih1, ih2⟩ := ih h1.2
    simp only [List.length_cons, List.sum_cons]
    refine ⟨by omega, ?_⟩
    rintro ⟨x, hx, hlt⟩
    rcases List.mem_cons.mp hx with rfl | hx
    · omega
    · have := ih2 ⟨x, hx, hlt⟩
      omega

/-- what the four consolidation rules do to an additive quantity `m` for which a member costs
`a + m inner` and a rebuilt group `a + Σ m inner`: the groups hold the members' contents, each
once (`groupByKey_values_perm`), so the total drops by `a · (#members − #groups)`; and no group is
empty while one has two members, so there are fewer groups than members. -/
theorem consolidate_sum {κ : Type} (sel : Expr α → Option (κ × Expr α)) (eq : κ → κ → Bool)
    (build : κ → List (Expr α) → Expr α) (m : Expr α → Nat) (a : Nat)
    (hsel : ∀ e k u, sel e = some (k, u) → m e = a + m u)
    (hbuild : ∀ k vs, m (build k vs) = a + (vs.map m).sum)
    (as as' : List (Expr α)) (h : consolidate sel eq build as = some as') :
    ∃ d, 0 < d ∧ (as'.map m).sum + a * d = (as.map m).sum := by
  obtain ⟨-, ⟨g, hg, hg2⟩, rfl⟩ := consolidate_eq_some.mp h
  have hperm := groupByKey_values_perm (eq := eq) (as.filterMap sel)
  have hlt := (length_lt_sum (l := (groupByKey eq (as.filterMap sel)).map fun g => g.2.length)
    (List.forall_mem_map.mpr fun g hg => List.length_pos_iff.mpr (groupByKey_ne_nil hg))).2
    ⟨_, List.mem_map_of_mem hg, hg2⟩
  rw [List.length_map, ← List.length_flatMap, hperm.length_eq, List.length_map] at hlt
  have hb : ((groupByKey eq (as.filterMap sel)).map fun g => build g.1 g.2).map m =
      (groupByKey eq (as.filterMap sel)).map fun g => a + (g.2.map m).sum := by
    rw [List.map_map]
    exact List.map_congr_left fun g _ => hbuild g.1 g.2
  refine ⟨_, Nat.sub_pos_of_lt hlt, ?_⟩
  rw [sum_filter_filterMap sel m (fun p => a + m p.2) (fun e p hp => hsel e p.1 p.2 hp) as,
    sum_map_const_add, List.map_append, List.sum_append, hb, sum_map_const_add, ← sum_map_flatMap,
    (hperm.map m).sum_nat, List.map_map, Nat.mul_sub]
  have := Nat.mul_le_mul_left a hlt.le
  simp only [Function.comp_def]
  omega

end Smooth
