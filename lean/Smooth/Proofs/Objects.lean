/-
Proofs/Objects — `__eq__`, `__hash__` and `__repr__` of the public objects as values (`Obj`):
expressions, `Point`, `Partial`, `Derivative`, `Differential`, `LocatedDifferential`.  Each method
goes by cases on the class and hands the parts to the facts about expressions (Proofs/Equality,
Proofs/Print) and points; what is new here is `Point.__hash__`, which sorts the items by name.
-/
import Smooth.Proofs.Equality
import Smooth.Proofs.Print

namespace Smooth
variable {α : Type}
open Expr

/-- the Python class of a public object (all expression classes lumped together: they are told apart
by `Expr.ctor`) -/
inductive ObjClass where
  | expr | point | partial_ | derivative | differential | located
  deriving DecidableEq, Repr

def Obj.cls : Obj α → ObjClass
  | .expr _ => .expr
  | .point _ => .point
  | .partial_ _ _ => .partial_
  | .derivative _ => .derivative
  | .differential _ => .differential
  | .located _ _ => .located

/-- every point occurring in the object has pairwise distinct names (keyword arguments / dictionary
keys are distinct) -/
def Obj.WF : Obj α → Prop
  | .point p => (p.map Prod.fst).Nodup
  | .located _ p => (p.map Prod.fst).Nodup
  | _ => True

def Obj.fresh : Obj α → Obj α
  | .expr e => .expr e.fresh
  | .point p => .point p
  | .partial_ e x => .partial_ e.fresh x
  | .derivative e => .derivative e.fresh
  | .differential e => .differential e.fresh
  | .located e p => .located e.fresh p

theorem obj_beq_refl_of {N : Num α} (hr : ∀ v, N.eq v v = true) :
    ∀ a : Obj α, a.WF → Obj.beq N a a = true
  | .expr e, _ => beq_refl_of hr e
  | .point _, hw => pointBeq_refl_of hr hw
  | .partial_ e x, _ => by simp [Obj.beq, beq_refl_of hr e]
  | .derivative e, _ => beq_refl_of hr e
  | .differential e, _ => beq_refl_of hr e
  | .located e _, hw => by simp [Obj.beq, beq_refl_of hr e, pointBeq_refl_of hr hw]

/-- symmetry: for points the distinctness of the names of the right object is used (the model
compares `other` against `self`), for located differentials that of the left one -/
theorem obj_beq_symm_of {N : Num α} (hs : ∀ x y, N.eq x y = true → N.eq y x = true) :
    ∀ a b : Obj α, a.WF → b.WF → Obj.beq N a b = true → Obj.beq N b a = true := by
  intro a b ha hb hab
  cases a <;> cases b <;> try exact Bool.noConfusion hab
  · exact beq_symm_of hs hab
  · exact pointBeq_symm_of hs hb hab
  · rw [Obj.beq, Bool.and_eq_true, beq_iff_eq] at hab ⊢
    exact ⟨beq_symm_of hs hab.1, hab.2.symm⟩
  · exact beq_symm_of hs hab
  · exact beq_symm_of hs hab
  · rw [Obj.beq, Bool.and_eq_true] at hab ⊢
    exact ⟨beq_symm_of hs hab.1, pointBeq_symm_of hs ha hab.2⟩

theorem obj_beq_cls {N : Num α} {a b : Obj α} (h : Obj.beq N a b = true) : a.cls = b.cls := by
  cases a <;> cases b <;> first | rfl | exact Bool.noConfusion h

theorem obj_beq_trans_of {N : Num α}
    (ht : ∀ x y z, N.eq x y = true → N.eq y z = true → N.eq x z = true) {a b c : Obj α}
    (hab : Obj.beq N a b = true) (hbc : Obj.beq N b c = true) : Obj.beq N a c = true := by
  cases a <;> cases b <;> (try exact Bool.noConfusion hab) <;> cases c <;>
    try exact Bool.noConfusion hbc
  · exact beq_trans_of ht hab hbc
  · exact pointBeq_trans_of ht hbc hab
  · rw [Obj.beq, Bool.and_eq_true, beq_iff_eq] at hab hbc ⊢
    exact ⟨beq_trans_of ht hab.1 hbc.1, hab.2.trans hbc.2⟩
  · exact beq_trans_of ht hab hbc
  · exact beq_trans_of ht hab hbc
  · rw [Obj.beq, Bool.and_eq_true] at hab hbc ⊢
    exact ⟨beq_trans_of ht hab.1 hbc.1, pointBeq_trans_of ht hab.2 hbc.2⟩

theorem obj_sortedItems_perm (p : Point α) : (sortedItems p).Perm p :=
  List.mergeSort_perm _ _

theorem obj_sortedItems_pairwise (p : Point α) :
    (sortedItems p).Pairwise (fun a b => a.1 ≤ b.1) := by
  have h := List.pairwise_mergeSort (le := fun a b : String × α => decide (a.1 ≤ b.1))
    (fun a b c hab hbc => by
      simp only [decide_eq_true_eq] at hab hbc ⊢
      exact String.le_trans hab hbc)
    (fun a b => by
      simp only [Bool.or_eq_true, decide_eq_true_eq]
      exact String.le_total _ _) p
  simpa [sortedItems] using h

theorem obj_sortedItems_names_pairwise (p : Point α) :
    ((sortedItems p).map Prod.fst).Pairwise (· ≤ ·) := by
  rw [List.pairwise_map]
  exact obj_sortedItems_pairwise p

theorem obj_sortedItems_names_eq {p q : Point α} (h : (p.map Prod.fst).Perm (q.map Prod.fst)) :
    (sortedItems p).map Prod.fst = (sortedItems q).map Prod.fst :=
  List.Perm.eq_of_pairwise (le := fun a b : String => a ≤ b)
    (fun _ _ _ _ hab hba => String.le_antisymm hab hba)
    (obj_sortedItems_names_pairwise p) (obj_sortedItems_names_pairwise q)
    ((((obj_sortedItems_perm p).map Prod.fst).trans h).trans ((obj_sortedItems_perm q).map Prod.fst).symm)

theorem obj_sortedItems_unique {p l : Point α} (hp : (p.map Prod.fst).Nodup) (hl : l.Perm p)
    (hs : l.Pairwise (fun a b => a.1 ≤ b.1)) : sortedItems p = l :=
  List.Perm.eq_of_pairwise (le := fun a b : String × α => a.1 ≤ b.1)
    (fun _ _ ha hb hab hba =>
      List.inj_on_of_nodup_map hp ((obj_sortedItems_perm p).mem_iff.mp ha) (hl.mem_iff.mp hb)
        (String.le_antisymm hab hba))
    (obj_sortedItems_pairwise p) hs ((obj_sortedItems_perm p).trans hl.symm)

theorem obj_sameList_items {N : Num α} : ∀ (s t : List (String × α)),
    s.map Prod.fst = t.map Prod.fst →
    (∀ x v w, (x, v) ∈ s → (x, w) ∈ t → N.eq v w = true) →
    HKey.sameList N (s.map fun (x, v) => HKey.tup [.str x, .num v])
      (t.map fun (x, v) => HKey.tup [.str x, .num v]) = true
  | [], [], _, _ => by simp [HKey.sameList]
  | [], _ :: _, h, _ => by simp at h
  | _ :: _, [], h, _ => by simp at h
  | (x, v) :: s, (y, w) :: t, h, hv => by
    simp only [List.map_cons, List.cons.injEq] at h
    obtain ⟨hxy, h⟩ := h
    subst hxy
    have ih := obj_sameList_items s t h
      (fun x v w hs ht => hv x v w (List.mem_cons_of_mem _ hs) (List.mem_cons_of_mem _ ht))
    have hvw := hv x v w (by simp) (by simp)
    simp [HKey.sameList, HKey.same, ih, hvw]

theorem obj_pointHashKey_same {N : Num α} {p q : Point α} (hp : (p.map Prod.fst).Nodup)
    (h : pointBeq N p q = true) : HKey.same N (pointHashKey p) (pointHashKey q) = true := by
  have hq : (q.map Prod.fst).Nodup := pointBeq_nodup_right hp h
  have hnames := obj_sortedItems_names_eq (pointBeq_names_perm hp h)
  obtain ⟨_, hall⟩ := (pointBeq_iff_forall N p q).mp h
  have hitems := obj_sameList_items (N := N) (sortedItems p) (sortedItems q) hnames
    (fun x v w hs ht => by
      obtain ⟨w', hw', hvw'⟩ := hall x v ((obj_sortedItems_perm p).mem_iff.mp hs)
      rw [Point.get?_eq_some_of_mem hq ((obj_sortedItems_perm q).mem_iff.mp ht)] at hw'
      cases hw'
      exact hvw')
  simp [pointHashKey, HKey.same, HKey.sameList, hitems]

theorem obj_hashKey_same_of_beq {N : Num α} (hs : ∀ x y, N.eq x y = true → N.eq y x = true) :
    ∀ a b : Obj α, a.WF → b.WF → Obj.beq N a b = true →
      HKey.same N a.hashKey b.hashKey = true := by
  intro a b ha hb hab
  cases a <;> cases b <;> try exact Bool.noConfusion hab
  · exact hashKey_same_of_beq hs hab
  · exact obj_pointHashKey_same (pointBeq_nodup_right hb hab) (pointBeq_symm_of hs hb hab)
  · rw [Obj.beq, Bool.and_eq_true] at hab
    simp [Obj.hashKey, HKey.same, HKey.sameList, hashKey_same_of_beq hs hab.1]
  · simp [Obj.hashKey, HKey.same, HKey.sameList, hashKey_same_of_beq hs hab]
  · simp [Obj.hashKey, HKey.same, HKey.sameList, hashKey_same_of_beq hs hab]
  · rw [Obj.beq, Bool.and_eq_true] at hab
    simp [Obj.hashKey, HKey.same, HKey.sameList, hashKey_same_of_beq hs hab.1,
      obj_pointHashKey_same ha hab.2]

def exprClassNames : List String :=
  ["Constant", "Variable", "Add", "Multiply", "Minus", "Divide", "Power", "Negation", "Reciprocal",
    "Cosine", "Sine", "NthPower", "NthRoot", "Exponential", "Logarithm"]

theorem Ctor.name_mem (c : Ctor) : c.name ∈ exprClassNames := by
  cases c <;> decide

theorem obj_render_head (e : Expr α) :
    ∃ c t, render e = Tok.ident c :: Tok.lp :: t ∧ c ∈ exprClassNames :=
  ⟨_, _, render_eq e, Ctor.name_mem _⟩

theorem obj_render_head_ne (e : Expr α) {s : String} (hs : s ∉ exprClassNames) (t : List (Tok α)) :
    render e ≠ Tok.ident s :: t := by
  rw [render_eq]
  exact fun h => hs (Tok.ident.inj (List.cons.inj h).1 ▸ Ctor.name_mem _)

/-- the coordinates can be read off the printed items, whichever token `c` the names are printed as -/
theorem joinComma_items_inj {c : String → Tok α} (hc : ∀ x y, c x = c y → x = y) :
    ∀ p q : Point α,
      joinComma (p.map fun (x, v) => [c x, Tok.eqs, Tok.num v])
        = joinComma (q.map fun (x, v) => [c x, Tok.eqs, Tok.num v]) → p = q
  | [], [], _ => rfl
  | [(x, v)], [(y, w)], h => by
    simp only [List.map_cons, List.map_nil, joinComma, List.cons.injEq, Tok.num.injEq, and_true,
      true_and] at h
    rw [hc _ _ h.1, h.2]
  | [], [_], h | [], _ :: _ :: _, h | [_], [], h | _ :: _ :: _, [], h | [_], _ :: _ :: _, h
  | _ :: _ :: _, [_], h => by simp [joinComma] at h
  | (x, v) :: a :: p, (y, w) :: b :: q, h => by
    simp only [List.map_cons, joinComma, List.cons_append, List.nil_append, List.cons.injEq,
      Tok.num.injEq, true_and] at h
    rw [hc _ _ h.1, h.2.1, joinComma_items_inj hc (a :: p) (b :: q) (by simpa using h.2.2)]

theorem obj_renderPoint_inj {p q : Point α} (h : renderPoint p = renderPoint q) : p = q := by
  simp only [renderPoint, List.cons_append, List.nil_append, List.cons.injEq, true_and] at h
  exact joinComma_items_inj (fun _ _ => Tok.ident.inj) p q (List.append_cancel_right h)

theorem obj_render_fresh (a : Obj α) : Obj.render a.fresh = Obj.render a := by
  cases a <;> simp only [Obj.fresh, Obj.render, renderPartial, renderDerivative,
    renderDifferential, renderLocated, render_fresh]

theorem obj_fresh_eq_of_render_eq (a b : Obj α) (h : Obj.render a = Obj.render b) :
    a.fresh = b.fresh := by
  cases a <;> cases b
  case expr.expr a b => exact congrArg Obj.expr (render_injective_fresh a b h)
  case point.point p q => exact congrArg Obj.point (obj_renderPoint_inj h)
  case partial_.partial_ a x b y =>
    obtain ⟨h1, h2⟩ := render_prefix_free a b _ _ (List.cons.inj (List.cons.inj h).2).2
    cases h2
    exact congrArg (Obj.partial_ · x) h1
  case derivative.derivative a b =>
    exact congrArg Obj.derivative
      (render_prefix_free a b _ _ (List.cons.inj (List.cons.inj h).2).2).1
  case differential.differential a b =>
    exact congrArg Obj.differential
      (render_prefix_free a b _ _ (List.cons.inj (List.cons.inj h).2).2).1
  case located.located a p b q =>
    have h' : render a ++ Tok.comma :: (renderPoint p ++ [Tok.rp])
        = render b ++ Tok.comma :: (renderPoint q ++ [Tok.rp]) := by
      simpa [Obj.render, renderLocated] using h
    obtain ⟨h1, h2⟩ := render_prefix_free a b _ _ h'
    rw [Obj.fresh, h1, obj_renderPoint_inj (List.append_cancel_right (List.cons.inj h2).2)]
    rfl
  -- the printed forms of objects of different classes start with different names
  all_goals first
    | exact absurd (Tok.ident.inj (List.cons.inj h).1) (by decide)
    | exact absurd h (obj_render_head_ne _ (by decide) _)
    | exact absurd h.symm (obj_render_head_ne _ (by decide) _)

theorem obj_render_eq_iff_fresh (a b : Obj α) : Obj.render a = Obj.render b ↔ a.fresh = b.fresh :=
  ⟨obj_fresh_eq_of_render_eq a b, fun h => by rw [← obj_render_fresh a, h, obj_render_fresh]⟩

theorem obj_beq_of_fresh_eq (N : Num α) (hrefl : ∀ v, N.eq v v = true) (a b : Obj α) (ha : a.WF)
    (h : a.fresh = b.fresh) : Obj.beq N a b = true := by
  cases a <;> cases b <;> simp only [Obj.fresh, Obj.expr.injEq, Obj.point.injEq,
    Obj.partial_.injEq, Obj.derivative.injEq, Obj.differential.injEq, Obj.located.injEq,
    reduceCtorEq] at h
  · exact beq_of_fresh_eq N hrefl h
  · subst h; exact pointBeq_refl_of hrefl ha
  · simp [Obj.beq, beq_of_fresh_eq N hrefl h.1, h.2]
  · exact beq_of_fresh_eq N hrefl h
  · exact beq_of_fresh_eq N hrefl h
  · obtain ⟨h1, h2⟩ := h
    subst h2
    simp [Obj.beq, beq_of_fresh_eq N hrefl h1, pointBeq_refl_of hrefl ha]

theorem obj_beq_of_render_eq (N : Num α) (hrefl : ∀ v, N.eq v v = true) (a b : Obj α) (ha : a.WF)
    (h : Obj.render a = Obj.render b) : Obj.beq N a b = true :=
  obj_beq_of_fresh_eq N hrefl a b ha (obj_fresh_eq_of_render_eq a b h)

end Smooth
