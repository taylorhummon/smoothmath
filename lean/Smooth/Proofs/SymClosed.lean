/-
Proofs/SymClosed — symbolic differentiation stays inside every class of expressions closed under the
constructions the derivative formulas use: operands of the original, constants, fresh
`Add`/`Multiply`/`Minus`/`Negation` nodes and the local formulas `unarySymFormula`, `divSym*`,
`powSym*`.  `SymClosed N P` says that `P` survives each of these; the two traversals are done for
such a `P`.  Mathlib-free.
-/
import Smooth.Proofs.Acc
import Smooth.Proofs.Shape

namespace Smooth
open Expr
variable {α : Type}

theorem SAcc.mem_of_get? {acc : SAcc α} {x : String} {v : Expr α} (h : SAcc.get? acc x = some v) :
    (x, v) ∈ acc := by
  induction acc with
  | nil => cases h
  | cons hd tl ih =>
    obtain ⟨y, w⟩ := hd
    rw [SAcc.get?_cons] at h
    split at h
    · next hyx =>
      cases hyx
      cases h
      exact List.mem_cons_self
    · exact List.mem_cons_of_mem _ (ih h)

theorem SAcc.mem_set {acc : SAcc α} {x : String} {v : Expr α} {p : String × Expr α}
    (h : p ∈ SAcc.set acc x v) : p.2 = v ∨ p ∈ acc := by
  induction acc with
  | nil => exact Or.inl (by rw [List.mem_singleton.mp h])
  | cons hd tl ih =>
    obtain ⟨y, w⟩ := hd
    simp only [SAcc.set] at h
    split at h
    · rcases List.mem_cons.mp h with rfl | h
      · exact Or.inl rfl
      · exact Or.inr (List.mem_cons_of_mem _ h)
    · rcases List.mem_cons.mp h with rfl | h
      · exact Or.inr List.mem_cons_self
      · exact (ih h).imp_right (List.mem_cons_of_mem _)

/-- what `add_to` leaves under the name it is given: the contribution itself on first use, afterwards
the binary `Add(existing, contribution)` -/
def SAcc.merged {α : Type} (old : Option (Expr α)) (c : Expr α) : Expr α :=
  match old with
  | none => c
  | some ex => mkAdd [ex, c]

theorem SAcc.get?_addTo (acc : SAcc α) (x z : String) (c : Expr α) :
    SAcc.get? (SAcc.addTo acc x c) z =
      if z = x then some (SAcc.merged (SAcc.get? acc x) c) else SAcc.get? acc z := by
  unfold SAcc.addTo SAcc.merged
  cases SAcc.get? acc x <;> exact SAcc.get?_set ..

def SAcc.All (P : Expr α → Prop) (acc : SAcc α) : Prop := ∀ y s, SAcc.get? acc y = some s → P s

theorem SAcc.All.nil (P : Expr α → Prop) : SAcc.All P [] := fun _ _ h => nomatch h

theorem SAcc.All.of_mem {P : Expr α → Prop} {acc : SAcc α} (h : ∀ a ∈ acc, P a.2) :
    SAcc.All P acc :=
  fun _ _ hg => h _ (SAcc.mem_of_get? hg)

theorem symFwdList_eq_map (N : Num α) (x : String) (es : List (Expr α)) :
    symFwdList N x es = es.map (symFwd N x) := by
  induction es with
  | nil => rw [symFwdList, List.map_nil]
  | cons e es ih => rw [symFwdList, ih, List.map_cons]

theorem symRevList_induct {N : Num α} {Q : SAcc α → Prop} {m : Expr α} {es : List (Expr α)}
    (step : ∀ a ∈ es, ∀ acc, Q acc → Q (symRev N a m acc)) :
    ∀ acc, Q acc → Q (symRevList N es m acc) := by
  induction es with
  | nil => intro acc h; rwa [symRevList]
  | cons e es ih =>
    intro acc h
    rw [symRevList]
    exact ih (fun a ha => step a (List.mem_cons_of_mem _ ha)) _ (step e List.mem_cons_self acc h)

theorem symRevMul_induct {N : Num α} {Q : SAcc α → Prop} {all : List (Expr α)} {m : Expr α}
    {es : List (Expr α)}
    (step : ∀ a ∈ es, ∀ i acc, Q acc → Q (symRev N a (mkMul (m :: all.eraseIdx i)) acc)) :
    ∀ i acc, Q acc → Q (symRevMul N all m i es acc) := by
  induction es with
  | nil => intro i acc h; rwa [symRevMul]
  | cons e es ih =>
    intro i acc h
    rw [symRevMul]
    exact ih (fun a ha => step a (List.mem_cons_of_mem _ ha)) _ _ (step e List.mem_cons_self i acc h)

def OperandsAll (P : Expr α → Prop) : Expr α → Prop
  | .const _ _ | .var _ _ => True
  | .add _ as | .mul _ as => ∀ a ∈ as, P a
  | .minus _ l r | .div _ l r | .pow _ l r => P l ∧ P r
  | .neg _ u | .recip _ u | .npow _ u _ | .nroot _ u _ | .exp _ u _ | .log _ u _ | .cos _ u
  | .sin _ u => P u

theorem OperandsAll.and {P Q : Expr α → Prop} {e : Expr α} (hp : OperandsAll P e)
    (hq : OperandsAll Q e) : OperandsAll (fun s => P s ∧ Q s) e := by
  cases e with
  | const f v => trivial
  | var f y => trivial
  | add f as => exact fun a ha => ⟨hp a ha, hq a ha⟩
  | mul f as => exact fun a ha => ⟨hp a ha, hq a ha⟩
  | minus f l r => exact ⟨⟨hp.1, hq.1⟩, hp.2, hq.2⟩
  | div f l r => exact ⟨⟨hp.1, hq.1⟩, hp.2, hq.2⟩
  | pow f l r => exact ⟨⟨hp.1, hq.1⟩, hp.2, hq.2⟩
  | _ => exact ⟨hp, hq⟩

/-- `P` passes to operands and survives every construction of the derivative formulas.  The formulas
of `Divide` and `Power` are asked for under `P` of the node itself: that is what a predicate about
domains can offer. -/
structure SymClosed (N : Num α) (P : Expr α → Prop) : Prop where
  operands : ∀ {e}, P e → OperandsAll P e
  const : ∀ v, P (mkConst v)
  add : ∀ {as}, (∀ a ∈ as, P a) → P (mkAdd as)
  mul : ∀ {as}, (∀ a ∈ as, P a) → P (mkMul as)
  minus : ∀ {l r}, P l → P r → P (mkMinus l r)
  neg : ∀ {m}, P m → P (mkNeg m)
  unary : ∀ {e m}, P e → P m → P (unarySymFormula N e m)
  divLeft : ∀ {f l r m}, P (.div f l r) → P m → P (divSymLeft l r m)
  divRight : ∀ {f l r m}, P (.div f l r) → P m → P (divSymRight l r m)
  powLeft : ∀ {f l r m}, P (.pow f l r) → P m → P (powSymLeft N l r m)
  powRight : ∀ {f l r m}, P (.pow f l r) → P m → P (powSymRight N (.pow f l r) l m)

theorem SymClosed.and {N : Num α} {P Q : Expr α → Prop} (HP : SymClosed N P)
    (HQ : SymClosed N Q) : SymClosed N fun s => P s ∧ Q s where
  operands h := (HP.operands h.1).and (HQ.operands h.2)
  const v := ⟨HP.const v, HQ.const v⟩
  add h := ⟨HP.add fun a ha => (h a ha).1, HQ.add fun a ha => (h a ha).2⟩
  mul h := ⟨HP.mul fun a ha => (h a ha).1, HQ.mul fun a ha => (h a ha).2⟩
  minus hl hr := ⟨HP.minus hl.1 hr.1, HQ.minus hl.2 hr.2⟩
  neg hm := ⟨HP.neg hm.1, HQ.neg hm.2⟩
  unary he hm := ⟨HP.unary he.1 hm.1, HQ.unary he.2 hm.2⟩
  divLeft h hm := ⟨HP.divLeft h.1 hm.1, HQ.divLeft h.2 hm.2⟩
  divRight h hm := ⟨HP.divRight h.1 hm.1, HQ.divRight h.2 hm.2⟩
  powLeft h hm := ⟨HP.powLeft h.1 hm.1, HQ.powLeft h.2 hm.2⟩
  powRight h hm := ⟨HP.powRight h.1 hm.1, HQ.powRight h.2 hm.2⟩

theorem operandsAll_of_children {P : Expr α → Prop} {e : Expr α} (h : ∀ c ∈ children e, P c) :
    OperandsAll P e := by
  cases e with
  | const f v => trivial
  | var f y => trivial
  | add f as => exact h
  | mul f as => exact h
  | minus f l r => exact ⟨h l List.mem_cons_self, h r (List.mem_cons_of_mem _ List.mem_cons_self)⟩
  | div f l r => exact ⟨h l List.mem_cons_self, h r (List.mem_cons_of_mem _ List.mem_cons_self)⟩
  | pow f l r => exact ⟨h l List.mem_cons_self, h r (List.mem_cons_of_mem _ List.mem_cons_self)⟩
  | _ => exact h _ List.mem_cons_self

/-- `P` passes to operands and holds of every node built afresh from parts in `P`, with any exponent
or base.  The derivative formulas build no `NthRoot` and no `Exponential`: where they need one it is
the node they differentiate. -/
structure FreshClosed (P : Expr α → Prop) : Prop where
  operands : ∀ {e}, P e → OperandsAll P e
  const : ∀ v, P (mkConst v)
  add : ∀ {as}, (∀ a ∈ as, P a) → P (mkAdd as)
  mul : ∀ {as}, (∀ a ∈ as, P a) → P (mkMul as)
  minus : ∀ {l r}, P l → P r → P (mkMinus l r)
  neg : ∀ {u}, P u → P (mkNeg u)
  div : ∀ {l r}, P l → P r → P (mkDiv l r)
  pow : ∀ {l r}, P l → P r → P (mkPow l r)
  npow : ∀ {u} n, P u → P (mkNPow u n)
  log : ∀ {u} b, P u → P (mkLog u b)
  cos : ∀ {u}, P u → P (mkCos u)
  sin : ∀ {u}, P u → P (mkSin u)

section
variable {P : Expr α → Prop} (F : FreshClosed P)
include F

theorem FreshClosed.mul₂ {a b : Expr α} (ha : P a) (hb : P b) : P (mkMul [a, b]) :=
  F.mul (List.forall_mem_cons.mpr ⟨ha, List.forall_mem_singleton.mpr hb⟩)

theorem FreshClosed.mul₃ {a b c : Expr α} (ha : P a) (hb : P b) (hc : P c) : P (mkMul [a, b, c]) :=
  F.mul (List.forall_mem_cons.mpr ⟨ha, List.forall_mem_cons.mpr ⟨hb, List.forall_mem_singleton.mpr hc⟩⟩)

theorem FreshClosed.unary (N : Num α) {e m : Expr α} (he : P e) (hm : P m) :
    P (unarySymFormula N e m) := by
  cases e with
  | neg f u => exact F.neg hm
  | recip f u => exact F.neg (F.div hm (F.npow 2 (F.operands he)))
  | npow f u n =>
    rw [unarySymFormula]
    split
    · exact hm
    · exact F.mul₃ (F.const _) (F.npow _ (F.operands he)) hm
  | nroot f u n =>
    rw [unarySymFormula]
    split
    · exact hm
    · exact F.div hm (F.mul₂ (F.const _) (F.npow _ he))
  | exp f u b =>
    rw [unarySymFormula]
    split
    · exact F.const _
    · split
      · exact F.mul₂ he hm
      · exact F.mul₃ (F.log _ (F.const _)) he hm
  | log f u b =>
    rw [unarySymFormula]
    split
    · exact F.div hm (F.operands he)
    · exact F.div hm (F.mul₂ (F.log _ (F.const _)) (F.operands he))
  | cos f u => exact F.mul₂ (F.neg (F.sin (F.operands he))) hm
  | sin f u => exact F.mul₂ (F.cos (F.operands he)) hm
  | _ => exact hm

theorem FreshClosed.symClosed (N : Num α) : SymClosed N P where
  operands := F.operands
  const := F.const
  add := F.add
  mul := F.mul
  minus := F.minus
  neg := F.neg
  unary := F.unary N
  divLeft h hm := F.div hm (F.operands h).2
  divRight h hm := F.mul₂ (F.neg (F.div (F.operands h).1 (F.npow 2 (F.operands h).2))) hm
  powLeft h hm :=
    F.mul₃ (F.operands h).2 (F.pow (F.operands h).1 (F.minus (F.operands h).2 (F.const _))) hm
  powRight h hm := F.mul₃ (F.log _ (F.operands h).1) h hm

end

theorem everywhere_freshClosed {At : Expr α → Prop}
    (hnew : ∀ x : Expr α, x.flags = {} → (∀ f u n, x ≠ .nroot f u n) → At x) :
    FreshClosed (Everywhere At) := by
  have mk : ∀ x : Expr α, x.flags = {} → (∀ f u n, x ≠ .nroot f u n) →
      (∀ c ∈ children x, Everywhere At c) → Everywhere At x :=
    fun x hx hn hc => everywhere_iff.mpr ⟨hnew x hx hn, hc⟩
  have one : ∀ {u : Expr α}, Everywhere At u → ∀ c ∈ [u], Everywhere At c :=
    List.forall_mem_singleton.mpr
  have two : ∀ {l r : Expr α}, Everywhere At l → Everywhere At r → ∀ c ∈ [l, r], Everywhere At c :=
    fun hl hr => List.forall_mem_cons.mpr ⟨hl, one hr⟩
  exact {
    operands := fun h => operandsAll_of_children fun _ hc => h.child hc
    const := fun _ => mk _ rfl nofun nofun
    add := fun h => mk _ rfl nofun h
    mul := fun h => mk _ rfl nofun h
    minus := fun hl hr => mk _ rfl nofun (two hl hr)
    neg := fun h => mk _ rfl nofun (one h)
    div := fun hl hr => mk _ rfl nofun (two hl hr)
    pow := fun hl hr => mk _ rfl nofun (two hl hr)
    npow := fun _ h => mk _ rfl nofun (one h)
    log := fun _ h => mk _ rfl nofun (one h)
    cos := fun h => mk _ rfl nofun (one h)
    sin := fun h => mk _ rfl nofun (one h) }

section
variable {N : Num α} {P : Expr α → Prop} (H : SymClosed N P)
include H

theorem SymClosed.add₂ {a b : Expr α} (ha : P a) (hb : P b) : P (mkAdd [a, b]) :=
  H.add (List.forall_mem_cons.mpr ⟨ha, List.forall_mem_cons.mpr ⟨hb, fun _ h => nomatch h⟩⟩)

theorem SymClosed.mul_cons_eraseIdx {m : Expr α} {as : List (Expr α)} (hm : P m)
    (has : ∀ a ∈ as, P a) (i : Nat) : P (mkMul (m :: as.eraseIdx i)) :=
  H.mul (List.forall_mem_cons.mpr ⟨hm, fun a ha => has a (List.mem_of_mem_eraseIdx ha)⟩)

theorem SymClosed.forall_symMulTermsGo {as : List (Expr α)} (has : ∀ a ∈ as, P a) :
    ∀ (i : Nat) (ds : List (Expr α)), (∀ d ∈ ds, P d) → ∀ t ∈ symMulTermsGo as i ds, P t := by
  intro i ds
  induction ds generalizing i with
  | nil => intro _ t ht; rw [symMulTermsGo] at ht; cases ht
  | cons d ds ih =>
    intro hds t ht
    rw [symMulTermsGo] at ht
    rcases List.mem_cons.mp ht with rfl | ht
    · exact H.mul_cons_eraseIdx (hds d List.mem_cons_self) has i
    · exact ih (i + 1) (fun d hd => hds d (List.mem_cons_of_mem _ hd)) t ht

theorem symFwd_closed (x : String) : ∀ e, P e → P (symFwd N x e) := by
  intro e
  induction e using Expr.ind with
  | const f v => intro _; rw [symFwd]; exact H.const _
  | var f y => intro _; rw [symFwd]; split <;> exact H.const _
  | add f as ih =>
    intro h
    rw [symFwd, symFwdList_eq_map]
    exact H.add (List.forall_mem_map.mpr fun a ha => ih a ha (H.operands h a ha))
  | mul f as ih =>
    intro h
    rw [symFwd, symMulTerms, symFwdList_eq_map]
    exact H.add (H.forall_symMulTermsGo (H.operands h) 0 _
      (List.forall_mem_map.mpr fun a ha => ih a ha (H.operands h a ha)))
  | minus f l r ihl ihr =>
    intro h
    rw [symFwd]
    exact H.minus (ihl (H.operands h).1) (ihr (H.operands h).2)
  | div f l r ihl ihr =>
    intro h
    rw [symFwd]
    exact H.add₂ (H.divLeft h (ihl (H.operands h).1)) (H.divRight h (ihr (H.operands h).2))
  | pow f l r ihl ihr =>
    intro h
    rw [symFwd]
    exact H.add₂ (H.powLeft h (ihl (H.operands h).1)) (H.powRight h (ihr (H.operands h).2))
  | _ =>
    -- the eight unary classes
    rename_i ih
    intro h
    rw [symFwd]
    exact H.unary h (ih (H.operands h))

theorem symFwdList_closed (x : String) {es : List (Expr α)} (h : ∀ a ∈ es, P a) :
    ∀ d ∈ symFwdList N x es, P d := by
  rw [symFwdList_eq_map]
  exact List.forall_mem_map.mpr fun a ha => symFwd_closed H x a (h a ha)

theorem symRev_closed {Q : SAcc α → Prop}
    (hadd : ∀ acc x c, Q acc → P c → Q (SAcc.addTo acc x c)) :
    ∀ e m acc, P e → P m → Q acc → Q (symRev N e m acc) := by
  intro e
  induction e using Expr.ind with
  | const f v => intro _ _ _ _ ha; rwa [symRev]
  | var f y => intro m acc _ hm ha; rw [symRev]; exact hadd acc y m ha hm
  | add f as ih =>
    intro m acc h hm ha
    rw [symRev]
    exact symRevList_induct (fun a ha acc => ih a ha m acc (H.operands h a ha) hm) acc ha
  | mul f as ih =>
    intro m acc h hm ha
    rw [symRev]
    exact symRevMul_induct (fun a ha i acc =>
      ih a ha _ acc (H.operands h a ha) (H.mul_cons_eraseIdx hm (H.operands h) i)) 0 acc ha
  | minus f l r ihl ihr =>
    intro m acc h hm ha
    rw [symRev]
    exact ihr _ _ (H.operands h).2 (H.neg hm) (ihl m acc (H.operands h).1 hm ha)
  | div f l r ihl ihr =>
    intro m acc h hm ha
    rw [symRev]
    exact ihr _ _ (H.operands h).2 (H.divRight h hm) (ihl _ acc (H.operands h).1 (H.divLeft h hm) ha)
  | pow f l r ihl ihr =>
    intro m acc h hm ha
    rw [symRev]
    exact ihr _ _ (H.operands h).2 (H.powRight h hm) (ihl _ acc (H.operands h).1 (H.powLeft h hm) ha)
  | _ =>
    -- the eight unary classes
    rename_i ih
    intro m acc h hm ha
    rw [symRev]
    exact ih _ acc (H.operands h) (H.unary h hm) ha

theorem symRevList_closed {Q : SAcc α → Prop}
    (hadd : ∀ acc x c, Q acc → P c → Q (SAcc.addTo acc x c)) {es : List (Expr α)} {m : Expr α}
    (acc : SAcc α) (hes : ∀ a ∈ es, P a) (hm : P m) (ha : Q acc) : Q (symRevList N es m acc) :=
  symRevList_induct (fun a h acc => symRev_closed H hadd a m acc (hes a h) hm) acc ha

theorem symRevMul_closed {Q : SAcc α → Prop}
    (hadd : ∀ acc x c, Q acc → P c → Q (SAcc.addTo acc x c)) {all es : List (Expr α)} {m : Expr α}
    (i : Nat) (acc : SAcc α) (hall : ∀ a ∈ all, P a) (hm : P m) (hes : ∀ a ∈ es, P a) (ha : Q acc) :
    Q (symRevMul N all m i es acc) :=
  symRevMul_induct (fun a h i acc =>
    symRev_closed H hadd a _ acc (hes a h) (H.mul_cons_eraseIdx hm hall i)) i acc ha

theorem SymClosed.all_addTo (acc : SAcc α) (x : String) (c : Expr α) (h : SAcc.All P acc)
    (hc : P c) : SAcc.All P (SAcc.addTo acc x c) := by
  intro z s hz
  rw [SAcc.get?_addTo] at hz
  split at hz
  · cases hz
    cases hex : SAcc.get? acc x with
    | none => exact hc
    | some ex => exact H.add₂ (h x ex hex) hc
  · exact h z s hz

theorem SymClosed.mem_addTo (acc : SAcc α) (x : String) (c : Expr α) (h : ∀ p ∈ acc, P p.2)
    (hc : P c) : ∀ p ∈ SAcc.addTo acc x c, P p.2 := by
  intro p hp
  unfold SAcc.addTo at hp
  split at hp
  · exact (SAcc.mem_set hp).elim (fun e => e ▸ hc) (h p)
  · next ex hex =>
    exact (SAcc.mem_set hp).elim (fun e => e ▸ H.add₂ (h _ (SAcc.mem_of_get? hex)) hc) (h p)

theorem syntheticPartials_closed_mem {e : Expr α} (he : P e) :
    ∀ p ∈ syntheticPartials N e, P p.2 := by
  intro p hp
  obtain ⟨x, _, rfl⟩ := List.mem_map.mp hp
  cases hg : SAcc.get? (symRev N e (mkConst N.one) []) x with
  | none => exact H.const _
  | some v =>
    exact symRev_closed H H.all_addTo e _ [] he (H.const _) (SAcc.All.nil P) x v hg

theorem syntheticPartials_closed {e : Expr α} (he : P e) : SAcc.All P (syntheticPartials N e) :=
  .of_mem (syntheticPartials_closed_mem H he)

end

end Smooth
