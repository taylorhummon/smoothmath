/-
C17 — Only the library's own errors escape, and results are real numbers.

The model makes "a Python arithmetic error would have escaped here" an observable outcome:
`.error .zeroDiv` (`/` by zero), `.error .valueErr` (`math.sqrt`/`math.log` outside their domain),
`.error .complex` (a negative number to a fractional power).  These theorems say none of them — nor
`usage`, `unsupported`, `fuel` — is ever the outcome of evaluation, forward mode or reverse mode,
at any point whatsoever (inside, outside or on the boundary of the domain, with or without missing
coordinates); and a successful outcome is `.ok` of a real number by the type of the model.
Overflow, recursion depth and memory are outside the model (no real-number model exhibits them).
-/
import Smooth.Proofs.Reverse
import Smooth.Model.Objects
import Smooth.Proofs.Base

namespace Smooth
open Expr

/-- C17, evaluation. -/
theorem eval_error_kinds (p : Point ℝ) (e : Expr ℝ) (hwf : WF e) (err : Err)
    (h : evalG realNum p e = .error err) : err = .domain ∨ err = .missing :=
  (evalR_good p e hwf).error_cases h

/-- C17, forward mode (`Partial.at`, `Derivative.at`, `component_at`, late). -/
theorem fwd_error_kinds (p : Point ℝ) (x : String) (e : Expr ℝ) (hwf : WF e) (err : Err)
    (h : fwdG realNum p x e = .error err) : err = .domain ∨ err = .missing :=
  (fwdR_spec p x e hwf).2.2 err h

/-- C17, reverse mode (`LocatedDifferential`, `Differential.at`, late). -/
theorem rev_error_kinds (p : Point ℝ) (e : Expr ℝ) (hwf : WF e) (m : ℝ) (acc : Acc ℝ) (err : Err)
    (h : revG realNum p e m acc = .error err) : err = .domain ∨ err = .missing :=
  (revR_spec p e hwf m acc).2.2 err h

theorem numericPartials_error_kinds (p : Point ℝ) (e : Expr ℝ) (hwf : WF e) (err : Err)
    (h : numericPartials realNum p e = .error err) : err = .domain ∨ err = .missing := by
  rcases R.bind_eq_error_iff.mp (show revG realNum p e _ [] >>= _ = _ from h) with h | ⟨_, _, h⟩
  · exact rev_error_kinds p e hwf _ _ _ h
  · cases h

/-- in particular no CPython-level error is ever produced -/
theorem no_python_error (p : Point ℝ) (x : String) (e : Expr ℝ) (hwf : WF e) :
    (∀ k ∈ [Err.zeroDiv, .valueErr, .complex, .usage, .unsupported, .fuel],
      evalG realNum p e ≠ .error k ∧ fwdG realNum p x e ≠ .error k ∧
      ∀ m acc, revG realNum p e m acc ≠ .error k) := by
  intro k hk
  refine ⟨fun h => ?_, fun h => ?_, fun m acc h => ?_⟩
  · rcases eval_error_kinds p e hwf k h with rfl | rfl <;> simp at hk
  · rcases fwd_error_kinds p x e hwf k h with rfl | rfl <;> simp at hk
  · rcases rev_error_kinds p e hwf m acc k h with rfl | rfl <;> simp at hk

/-- the bare-number entry point adds exactly one more outcome, the documented generic exception for
expressions with two or more variables -/
theorem atNumber_error_kinds (e : Expr ℝ) (hwf : WF e) (t : ℝ) (err : Err)
    (h : atNumber realNum e t = .error err) : err = .domain ∨ err = .missing ∨ err = .usage := by
  rcases R.bind_eq_error_iff.mp (show singleVarName e >>= _ = _ from h) with h | ⟨x, _, h⟩
  · unfold singleVarName at h
    split at h <;> cases h
    exact Or.inr (Or.inr rfl)
  · exact (eval_error_kinds _ e hwf err h).imp_right Or.inl

/-- non-vacuity: a well-formed expression whose derivative formulas divide, take logarithms and
fractional powers -/
example : WF (mkDiv (mkNRoot (mkVar "x") 3) (mkLog (mkVar "y") (1 / 2)) : Expr ℝ) := by
  simp [WF]

end Smooth
