/-
C09 (objects) — history independence of the persistent derivative objects.

"The result of any evaluation or derivative query depends only on the expression and the point, never
on history."  Properties/C09.lean treats the two memo mechanisms inside expressions (`_value`, the
reduction flags).  This file treats the third piece of state that survives between calls: the
`_synthetic_partial` attribute of a `Partial` (and of the `Partial` inside a `Derivative`).  Users keep
such objects and call `.at(point)` / `.as_expression()` many times in any order; C09 says every answer
is the answer a fresh object would give.

The model of calls (`POp`, `DOp`), answers (`POut`), one call (`PartialObj.step`: a failing
`as_expression()` leaves the state unchanged, since Python assigns the attribute only after
`_normalize()` has returned), histories (`PartialObj.run`), the never-used late object's answer
(`PartialObj.freshAnswer`) and `POut.MemoOf fresh out` (`out` is `fresh`, or the same expression without
the warning: a fresh object may log the budget warning while it normalises, an object that answers
from its memo never does) is in Proofs/ObjHistory.lean, computable and generic in the number record.

Side conditions, and where each is needed:
* `WF e` (what every constructible expression satisfies, C16) and `Supp p e` (the point has a
  coordinate for every variable of `e`) for the `.at` calls;
* K1 — `NormOK K1FreeAt REDUCTION_STEPS_BOUND NORMALIZE_FUEL (symFwd realNum x e)`: the rewriter's
  run on the raw symbolic partial performs no even/even `NthRoot(NthPower(·))` rewrite (the one
  unsound rule, C05/C08).  Needed only for `.at` on the domain after the expression has been stored.
  Without it the statement is false: `partial_history_K1_witness`.  Theorems that need it carry the
  suffix `_partial`.
* fuel (`normalize … = some _`): not needed for late objects — if the rewriter runs out of fuel,
  `as_expression()` fails, the state stays as it was, and a fresh object fails in the same way.  For
  objects built with `compute_early=True` the hypothesis is "the construction succeeded"
  (`PartialObj.new … true = .ok _`), which is the fuel condition (`partial_early_construction_succeeds`,
  and C06 `early_construction_fails_only_for_fuel`).
* `.as_expression()` needs nothing at all and holds for every number instance.
-/
import Smooth.Proofs.ObjHistory

namespace Smooth
open Expr

/-- C09obj, state invariant.  After any history of calls on `Partial(e, x)` or
`Partial(e, x, compute_early=True)` the object still has the original `e` and the variable `x`, and its
`_synthetic_partial` is either absent or the normalised symbolic partial
`_retrieve_synthetic_partial(e, x)` — for every number instance. -/
theorem partial_state_invariant {α : Type} (N : Num α) (e : Expr α) (x : String) (early : Bool)
    (P₀ : PartialObj α) (w₀ : Bool) (h₀ : PartialObj.new N e x early = .ok (P₀, w₀))
    (ops : List (POp α)) :
    (P₀.run N ops).1 = ⟨e, x, none⟩ ∨
      ∃ s w, retrieveSyntheticPartial N e x = .ok (s, w) ∧ (P₀.run N ops).1 = ⟨e, x, some s⟩ :=
  oh_run_inv N (oh_inv_new N e x early h₀) ops

/-- the stored expression is the same whatever the history and however the object was built -/
theorem partial_stored_expression_unique {α : Type} (N : Num α) (e : Expr α) (x : String)
    (early₁ early₂ : Bool) (P₁ P₂ : PartialObj α) (w₁ w₂ : Bool)
    (h₁ : PartialObj.new N e x early₁ = .ok (P₁, w₁))
    (h₂ : PartialObj.new N e x early₂ = .ok (P₂, w₂)) (ops₁ ops₂ : List (POp α)) (s₁ s₂ : Expr α)
    (e₁ : (P₁.run N ops₁).1.syn = some s₁) (e₂ : (P₂.run N ops₂).1.syn = some s₂) : s₁ = s₂ :=
  oh_inv_stored_unique N (oh_run_inv N (oh_inv_new N e x early₁ h₁) ops₁)
    (oh_run_inv N (oh_inv_new N e x early₂ h₂) ops₂) e₁ e₂

/-- an object that stores an expression (built early, or after a successful `as_expression()`) never
changes again -/
theorem partial_stored_state_is_final {α : Type} (N : Num α) (e s : Expr α) (x : String)
    (ops : List (POp α)) : ((PartialObj.mk e x (some s)).run N ops).1 = ⟨e, x, some s⟩ :=
  oh_run_stored N e s x ops

theorem partial_early_state_constant {α : Type} (N : Num α) (e : Expr α) (x : String)
    (P₀ : PartialObj α) (w₀ : Bool) (h₀ : PartialObj.new N e x true = .ok (P₀, w₀))
    (ops : List (POp α)) : (P₀.run N ops).1 = P₀ :=
  oh_run_early N e x h₀ ops

/-- once the history contains a successful `as_expression()` the late object stores its result -/
theorem partial_state_after_as_expression {α : Type} (N : Num α) (e s : Expr α) (x : String)
    (w : Bool) (hret : retrieveSyntheticPartial N e x = .ok (s, w)) (ops : List (POp α))
    (h : POp.asExpr ∈ ops) : ((PartialObj.mk e x none).run N ops).1 = ⟨e, x, some s⟩ :=
  oh_run_asExpr_mem N hret (oh_inv_fresh N e x) ops h

/-- a failing `as_expression()` leaves the object as it was; and when the rewriter has not enough
fuel for this expression, a late object stays in its initial state under every history -/
theorem partial_failed_as_expression_keeps_state {α : Type} (N : Num α) (e : Expr α) (x : String)
    (err : Err) :
    (∀ P : PartialObj α, P.asExpression N = .error err →
        P.step N .asExpr = (P, .expr (.error err))) ∧
      (retrieveSyntheticPartial N e x = .error err →
        ∀ ops, ((PartialObj.mk e x none).run N ops).1 = ⟨e, x, none⟩) :=
  ⟨fun P h => oh_step_asExpr_fail N P h, fun h ops => oh_run_fuel N h ops⟩

/-- C09obj, `.at(point)`.  After any history (on a late or an early object) `.at(p)` at a supplied
point returns exactly what a fresh late `Partial(e, x)` returns: the same number on the domain, the
same `DomainError` off it. -/
theorem partial_at_history_independent_partial (e : Expr ℝ) (x : String) (hwf : WF e)
    (hK1 : NormOK K1FreeAt REDUCTION_STEPS_BOUND NORMALIZE_FUEL (symFwd realNum x e))
    (early : Bool) (P₀ : PartialObj ℝ) (w₀ : Bool)
    (h₀ : PartialObj.new realNum e x early = .ok (P₀, w₀)) (ops : List (POp ℝ)) (p : Point ℝ)
    (hs : Supp p e) :
    ((P₀.run realNum ops).1.step realNum (.at p)).2 =
      .num ((PartialObj.mk e x none).at realNum p) :=
  oh_memoOf_num (oh_after_history hwf hK1 (oh_inv_new realNum e x early h₀) ops (.at p) hs)

/-- on the domain both are the true partial derivative -/
theorem partial_at_on_domain_history_independent_partial (e : Expr ℝ) (x : String) (hwf : WF e)
    (hK1 : NormOK K1FreeAt REDUCTION_STEPS_BOUND NORMALIZE_FUEL (symFwd realNum x e))
    (early : Bool) (P₀ : PartialObj ℝ) (w₀ : Bool)
    (h₀ : PartialObj.new realNum e x early = .ok (P₀, w₀)) (ops : List (POp ℝ)) (p : Point ℝ)
    (hs : Supp p e) (hd : Dom (valOf p) e) :
    ((P₀.run realNum ops).1.step realNum (.at p)).2 = .num (.ok (truePartial p x e)) ∧
      PartialObj.freshAnswer realNum e x (.at p) = .num (.ok (truePartial p x e)) := by
  rw [partial_at_history_independent_partial e x hwf hK1 early P₀ w₀ h₀ ops p hs, oh_fresh_at]
  exact ⟨congrArg POut.num (tp_fwd_is_truePartial p x e hwf hs hd),
    congrArg POut.num (tp_fwd_is_truePartial p x e hwf hs hd)⟩

/-- off the domain both raise `DomainError` — with no K1 hypothesis: an object that stores an
expression evaluates the original first. -/
theorem partial_at_off_domain_history_independent (e : Expr ℝ) (x : String) (hwf : WF e)
    (early : Bool) (P₀ : PartialObj ℝ) (w₀ : Bool)
    (h₀ : PartialObj.new realNum e x early = .ok (P₀, w₀)) (ops : List (POp ℝ)) (p : Point ℝ)
    (hs : Supp p e) (hnd : ¬ Dom (valOf p) e) :
    ((P₀.run realNum ops).1.step realNum (.at p)).2 = .num (.error .domain) ∧
      PartialObj.freshAnswer realNum e x (.at p) = .num (.error .domain) :=
  have hoff := congrArg POut.num (routes_fwdG_off x hwf hs hnd)
  ⟨hoff ▸ congrArg POut.num (oh_at_inv hwf (oh_run_inv realNum (oh_inv_new realNum e x early h₀) ops)
      hs fun hd => absurd hd hnd), hoff⟩

/-- C09obj, `.as_expression()`.  After any history (on a late or an early object)
`as_expression()` returns the fresh object's answer `_retrieve_synthetic_partial(e, x)` — the same
expression or the same failure — except that the warning flag may be dropped: either the answer is the
fresh one, or the fresh one is `(s, w)` and the answer is `(s, false)`.  For every number instance;
no K1, no fuel, no well-formedness hypothesis. -/
theorem partial_as_expression_history_independent {α : Type} (N : Num α) (e : Expr α) (x : String)
    (early : Bool) (P₀ : PartialObj α) (w₀ : Bool)
    (h₀ : PartialObj.new N e x early = .ok (P₀, w₀)) (ops : List (POp α)) :
    PartialObj.freshAnswer N e x .asExpr = .expr (retrieveSyntheticPartial N e x) ∧
    (((P₀.run N ops).1.step N .asExpr).2 = .expr (retrieveSyntheticPartial N e x) ∨
      ∃ s w, retrieveSyntheticPartial N e x = .ok (s, w) ∧
        ((P₀.run N ops).1.step N .asExpr).2 = .expr (.ok (s, false))) := by
  refine ⟨oh_fresh_asExpr N e x, ?_⟩
  rcases oh_asExpr_memoOf N (oh_run_inv N (oh_inv_new N e x early h₀) ops) with h | ⟨s, w, h1, h2⟩
  · exact Or.inl (by rw [h, oh_fresh_asExpr])
  · rw [oh_fresh_asExpr] at h1
    injection h1 with h1
    exact Or.inr ⟨s, w, h1, h2⟩

/-- the warning flag, exactly: the first successful `as_expression()` of a late object carries the
fresh object's flag, every later one — and every one on an early object, whose warning was logged at
construction (`w₀`) — carries `false` -/
theorem partial_as_expression_warning_flag {α : Type} (N : Num α) (e s : Expr α) (x : String)
    (w : Bool) (hret : retrieveSyntheticPartial N e x = .ok (s, w)) :
    (∀ ops : List (POp α), POp.asExpr ∉ ops →
        (((PartialObj.mk e x none).run N ops).1.step N .asExpr).2 = .expr (.ok (s, w))) ∧
    (∀ ops : List (POp α), POp.asExpr ∈ ops →
        (((PartialObj.mk e x none).run N ops).1.step N .asExpr).2 = .expr (.ok (s, false))) ∧
    (∀ (P₀ : PartialObj α) (w₀ : Bool), PartialObj.new N e x true = .ok (P₀, w₀) →
        w₀ = w ∧ ∀ ops : List (POp α),
          ((P₀.run N ops).1.step N .asExpr).2 = .expr (.ok (s, false))) := by
  refine ⟨fun ops h => ?_, fun ops h => ?_, fun P₀ w₀ h₀ => ?_⟩
  · rw [oh_run_no_asExpr N e x ops h, oh_step_asExpr_none_ok N hret]
  · rw [oh_run_asExpr_mem N hret (oh_inv_fresh N e x) ops h]
    rfl
  · obtain ⟨s', hret', rfl⟩ := (PartialObj.new_early_eq_ok N).mp h₀
    cases hret.symm.trans hret'
    exact ⟨rfl, fun ops => by rw [oh_run_stored]; rfl⟩

/-- C09obj, whole transcript.  Call by call, the transcript of any history is the transcript of
fresh objects (`MemoOf`: equal, or the same expression without the warning). -/
theorem partial_transcript_is_fresh_partial (e : Expr ℝ) (x : String) (hwf : WF e)
    (hK1 : NormOK K1FreeAt REDUCTION_STEPS_BOUND NORMALIZE_FUEL (symFwd realNum x e))
    (early : Bool) (P₀ : PartialObj ℝ) (w₀ : Bool)
    (h₀ : PartialObj.new realNum e x early = .ok (P₀, w₀)) (ops : List (POp ℝ))
    (hsupp : ∀ o ∈ ops, o.Supplies e) :
    List.Forall₂ (fun o out => POut.MemoOf (PartialObj.freshAnswer realNum e x o) out) ops
      (P₀.run realNum ops).2 :=
  oh_run_transcript hwf hK1 (oh_inv_new realNum e x early h₀) ops hsupp

/-- what `MemoOf` means: for numbers equality; in general equality after forgetting the warning flag;
and equality outright when the fresh object logs no warning -/
theorem memoOf_meaning {α : Type} (fresh out : POut α) (h : POut.MemoOf fresh out) :
    out.forget = fresh.forget ∧ (∀ r, fresh = .num r → out = .num r) ∧
      ((∀ s w, fresh = .expr (.ok (s, w)) → w = false) → out = fresh) :=
  ⟨oh_memoOf_forget h, fun _ hr => oh_memoOf_num (hr ▸ h), oh_memoOf_no_warning h⟩

/-- C09obj, two histories.  Take two objects for the same `e`, `x` (each late or early), run any
two histories on them, then ask the same question: the two answers agree — exactly for `.at p`, up to
the warning flag for `.as_expression()`. -/
theorem partial_two_histories_partial (e : Expr ℝ) (x : String) (hwf : WF e)
    (hK1 : NormOK K1FreeAt REDUCTION_STEPS_BOUND NORMALIZE_FUEL (symFwd realNum x e))
    (early₁ early₂ : Bool) (P₁ P₂ : PartialObj ℝ) (w₁ w₂ : Bool)
    (h₁ : PartialObj.new realNum e x early₁ = .ok (P₁, w₁))
    (h₂ : PartialObj.new realNum e x early₂ = .ok (P₂, w₂))
    (ops₁ ops₂ : List (POp ℝ)) (o : POp ℝ) (hsupp : o.Supplies e) :
    ((P₁.run realNum ops₁).1.step realNum o).2.forget =
      ((P₂.run realNum ops₂).1.step realNum o).2.forget :=
  (oh_memoOf_forget (oh_after_history hwf hK1 (oh_inv_new realNum e x early₁ h₁) ops₁ o hsupp)).trans
    (oh_memoOf_forget (oh_after_history hwf hK1 (oh_inv_new realNum e x early₂ h₂) ops₂ o hsupp)).symm

theorem partial_two_histories_at_partial (e : Expr ℝ) (x : String) (hwf : WF e)
    (hK1 : NormOK K1FreeAt REDUCTION_STEPS_BOUND NORMALIZE_FUEL (symFwd realNum x e))
    (early₁ early₂ : Bool) (P₁ P₂ : PartialObj ℝ) (w₁ w₂ : Bool)
    (h₁ : PartialObj.new realNum e x early₁ = .ok (P₁, w₁))
    (h₂ : PartialObj.new realNum e x early₂ = .ok (P₂, w₂))
    (ops₁ ops₂ : List (POp ℝ)) (p : Point ℝ) (hs : Supp p e) :
    ((P₁.run realNum ops₁).1.step realNum (.at p)).2 =
      ((P₂.run realNum ops₂).1.step realNum (.at p)).2 := by
  rw [partial_at_history_independent_partial e x hwf hK1 early₁ P₁ w₁ h₁ ops₁ p hs,
    partial_at_history_independent_partial e x hwf hK1 early₂ P₂ w₂ h₂ ops₂ p hs]

/-- for `.as_expression()` the returned expression (or failure) agrees, for every number instance and
with no side condition (only the flag is forgotten) -/
theorem partial_two_histories_as_expression {α : Type} (N : Num α) (e : Expr α) (x : String)
    (early₁ early₂ : Bool) (P₁ P₂ : PartialObj α) (w₁ w₂ : Bool)
    (h₁ : PartialObj.new N e x early₁ = .ok (P₁, w₁))
    (h₂ : PartialObj.new N e x early₂ = .ok (P₂, w₂)) (ops₁ ops₂ : List (POp α)) :
    ((P₁.run N ops₁).1.step N .asExpr).2.forget = ((P₂.run N ops₂).1.step N .asExpr).2.forget := by
  rw [oh_memoOf_forget (oh_asExpr_memoOf N (oh_run_inv N (oh_inv_new N e x early₁ h₁) ops₁)),
    oh_memoOf_forget (oh_asExpr_memoOf N (oh_run_inv N (oh_inv_new N e x early₂ h₂) ops₂))]

/-- `Partial(e, x, compute_early=True)` can be built whenever the rewriter has enough fuel for the raw
symbolic partial (it cannot fail otherwise: C06 `early_construction_fails_only_for_fuel`); it stores
the normalised symbolic partial, and the theorems stated for `early : Bool` apply to it -/
theorem partial_early_construction_succeeds (e : Expr ℝ) (x : String)
    (hfuel : ∃ r, normalize realNum (symFwd realNum x e) = some r) :
    ∃ s w, retrieveSyntheticPartial realNum e x = .ok (s, w) ∧
      PartialObj.new realNum e x true = .ok (⟨e, x, some s⟩, w) :=
  let ⟨s, w, hret⟩ := routes_retrieve_ok x hfuel
  ⟨s, w, hret, (PartialObj.new_early_eq_ok realNum).mpr ⟨s, hret, rfl⟩⟩

/-- a `Derivative` forwards every call to its `Partial` in the single variable: one step of the
`Derivative` is one step of the wrapped `Partial` (`.at(number)` becomes `.at` of the one-coordinate
point), and so is a whole history — for every number instance -/
theorem derivative_history_is_partial_history {α : Type} (N : Num α) (D : DerivativeObj α)
    (ops : List (DOp α)) :
    D.run N ops = ({ D with partial_ := (D.partial_.run N (ops.map (DOp.toPOp D.x))).1 },
      (D.partial_.run N (ops.map (DOp.toPOp D.x))).2) :=
  oh_drun_eq N D ops

/-- C09obj, state invariant of `Derivative`.  After any history on `Derivative(e)` (late or early)
the object still has `e`, the single variable, and a `Partial` satisfying the `Partial` invariant. -/
theorem derivative_state_invariant {α : Type} (N : Num α) (e : Expr α) (early : Bool)
    (D₀ : DerivativeObj α) (w₀ : Bool) (h₀ : DerivativeObj.new N e early = .ok (D₀, w₀))
    (ops : List (DOp α)) :
    singleVarName e = .ok D₀.x ∧ (D₀.run N ops).1.orig = e ∧ (D₀.run N ops).1.x = D₀.x ∧
      ((D₀.run N ops).1.partial_ = ⟨e, D₀.x, none⟩ ∨
        ∃ s w, retrieveSyntheticPartial N e D₀.x = .ok (s, w) ∧
          (D₀.run N ops).1.partial_ = ⟨e, D₀.x, some s⟩) := by
  obtain ⟨hx, hinv⟩ := oh_dinv_new N e early h₀
  exact ⟨hx, oh_drun_inv N hinv ops⟩

/-- the fresh `Derivative` that `freshAnswer` speaks of is the one the constructor builds -/
theorem derivative_fresh_is_new {α : Type} (N : Num α) (e : Expr α) (D : DerivativeObj α) (w : Bool)
    (h : DerivativeObj.new N e false = .ok (D, w)) (o : DOp α) :
    (D.step N o).2 = DerivativeObj.freshAnswer N e D.x o := by
  conv_lhs => rw [oh_dnew_late N e h]
  rfl

/-- C09obj, `Derivative`.  After any history on `Derivative(e)` (late or early) every call —
`.at(point)` at a supplied point, `.at(number)` (the one-coordinate point always supplies `e`),
`.as_expression()` — answers like a fresh late `Derivative(e)`: the same number on the domain, the
same `DomainError` off it, the same expression (possibly without the warning). -/
theorem derivative_history_independent_partial (e : Expr ℝ) (hwf : WF e) (early : Bool)
    (D₀ : DerivativeObj ℝ) (w₀ : Bool) (h₀ : DerivativeObj.new realNum e early = .ok (D₀, w₀))
    (hK1 : NormOK K1FreeAt REDUCTION_STEPS_BOUND NORMALIZE_FUEL (symFwd realNum D₀.x e))
    (ops : List (DOp ℝ)) (o : DOp ℝ) (hsupp : o.Supplies e) :
    POut.MemoOf (DerivativeObj.freshAnswer realNum e D₀.x o)
      ((D₀.run realNum ops).1.step realNum o).2 := by
  obtain ⟨hx, hinv⟩ := oh_dinv_new realNum e early h₀
  exact oh_dafter_history hwf hx hK1 hinv ops o hsupp

theorem derivative_at_history_independent_partial (e : Expr ℝ) (hwf : WF e) (early : Bool)
    (D₀ : DerivativeObj ℝ) (w₀ : Bool) (h₀ : DerivativeObj.new realNum e early = .ok (D₀, w₀))
    (hK1 : NormOK K1FreeAt REDUCTION_STEPS_BOUND NORMALIZE_FUEL (symFwd realNum D₀.x e))
    (ops : List (DOp ℝ)) :
    (∀ p, Supp p e → ((D₀.run realNum ops).1.step realNum (.at p)).2 =
        .num (fwdG realNum p D₀.x e)) ∧
    (∀ t, ((D₀.run realNum ops).1.step realNum (.atNumber t)).2 =
        .num (fwdG realNum [(D₀.x, t)] D₀.x e)) :=
  ⟨fun p hs => oh_memoOf_num
      (derivative_history_independent_partial e hwf early D₀ w₀ h₀ hK1 ops (.at p) hs),
    fun t => oh_memoOf_num
      (derivative_history_independent_partial e hwf early D₀ w₀ h₀ hK1 ops (.atNumber t) trivial)⟩

theorem derivative_transcript_is_fresh_partial (e : Expr ℝ) (hwf : WF e) (early : Bool)
    (D₀ : DerivativeObj ℝ) (w₀ : Bool) (h₀ : DerivativeObj.new realNum e early = .ok (D₀, w₀))
    (hK1 : NormOK K1FreeAt REDUCTION_STEPS_BOUND NORMALIZE_FUEL (symFwd realNum D₀.x e))
    (ops : List (DOp ℝ)) (hsupp : ∀ o ∈ ops, o.Supplies e) :
    List.Forall₂ (fun o out => POut.MemoOf (DerivativeObj.freshAnswer realNum e D₀.x o) out) ops
      (D₀.run realNum ops).2 := by
  obtain ⟨hx, hinv⟩ := oh_dinv_new realNum e early h₀
  exact oh_drun_transcript hwf hx hK1 hinv ops hsupp

/-- two `Derivative` objects, two histories, one final answer (up to the warning flag) -/
theorem derivative_two_histories_partial (e : Expr ℝ) (hwf : WF e) (x : String)
    (hx : singleVarName e = .ok x)
    (hK1 : NormOK K1FreeAt REDUCTION_STEPS_BOUND NORMALIZE_FUEL (symFwd realNum x e))
    (early₁ early₂ : Bool) (D₁ D₂ : DerivativeObj ℝ) (w₁ w₂ : Bool)
    (h₁ : DerivativeObj.new realNum e early₁ = .ok (D₁, w₁))
    (h₂ : DerivativeObj.new realNum e early₂ = .ok (D₂, w₂))
    (ops₁ ops₂ : List (DOp ℝ)) (o : DOp ℝ) (hsupp : o.Supplies e) :
    ((D₁.run realNum ops₁).1.step realNum o).2.forget =
      ((D₂.run realNum ops₂).1.step realNum o).2.forget := by
  obtain ⟨hx₁, hinv₁⟩ := oh_dinv_new realNum e early₁ h₁
  obtain ⟨hx₂, hinv₂⟩ := oh_dinv_new realNum e early₂ h₂
  cases hx.symm.trans hx₁
  rw [← Except.ok.inj (hx₁.symm.trans hx₂)] at hinv₂
  exact (oh_memoOf_forget (oh_dafter_history hwf hx hK1 hinv₁ ops₁ o hsupp)).trans
    (oh_memoOf_forget (oh_dafter_history hwf hx hK1 hinv₂ ops₂ o hsupp)).symm

/-! A `Differential` is immutable after construction: no method of the Python class assigns an attribute,
and accordingly none of the model's functions `DifferentialObj.component`, `.componentAt`, `.at` has a
state output.  `DifferentialObj.step` therefore returns the object it was given, by definition; the
first three theorems only record this.  The content is in the comparison of the early
object with a fresh late one. -/

theorem differential_queries_stateless {α : Type} (N : Num α) (D : DifferentialObj α)
    (ops : List (FOp α)) : (D.run N ops).1 = D ∧ (D.run N ops).2 = ops.map (D.answer N) :=
  ⟨oh_frun_state N D ops, oh_frun_answers N D ops⟩

theorem differential_repeated_query {α : Type} (N : Num α) (D : DifferentialObj α) (o : FOp α) :
    ((D.step N o).1.step N o).2 = (D.step N o).2 := rfl

theorem differential_history_independent {α : Type} (N : Num α) (D : DifferentialObj α)
    (ops : List (FOp α)) (o : FOp α) : ((D.run N ops).1.step N o).2 = D.answer N o := by
  rw [oh_frun_state]; rfl

/-- C09obj, early `Differential`, `component_at`.  At every supplied point
`Differential(e, compute_early=True).component_at(x, p)` equals the fresh late answer
`Differential(e).component_at(x, p)`, for every name `x` — on the domain (outside K1 for every stored
component) and off it. -/
theorem differential_early_component_at_eq_late_partial (e : Expr ℝ) (hwf : WF e)
    (hK1r : ∀ y s, SAcc.get? (syntheticPartials realNum e) y = some s →
      NormOK K1FreeAt REDUCTION_STEPS_BOUND NORMALIZE_FUEL s)
    (D : DifferentialObj ℝ) (w : Bool) (hnew : DifferentialObj.new realNum e true = .ok (D, w))
    (x : String) (p : Point ℝ) (hs : Supp p e) :
    D.componentAt realNum x p = (DifferentialObj.mk e none).componentAt realNum x p :=
  routes_componentAt_early x hwf hs (fun _ => hK1r) hnew

/-- on the domain both are the true partial, off the domain both raise `DomainError` (the latter with
no K1 hypothesis) -/
theorem differential_component_at_values (e : Expr ℝ) (hwf : WF e) (D : DifferentialObj ℝ) (w : Bool)
    (hnew : DifferentialObj.new realNum e true = .ok (D, w)) (x : String) (p : Point ℝ)
    (hs : Supp p e) :
    (Dom (valOf p) e →
      (∀ y s, SAcc.get? (syntheticPartials realNum e) y = some s →
        NormOK K1FreeAt REDUCTION_STEPS_BOUND NORMALIZE_FUEL s) →
      D.componentAt realNum x p = .ok (truePartial p x e) ∧
        (DifferentialObj.mk e none).componentAt realNum x p = .ok (truePartial p x e)) ∧
    (¬ Dom (valOf p) e →
      D.componentAt realNum x p = .error .domain ∧
        (DifferentialObj.mk e none).componentAt realNum x p = .error .domain) := by
  refine ⟨fun hd hK1r => ?_, fun hnd => ?_⟩
  · rw [routes_componentAt_early x hwf hs (fun _ => hK1r) hnew]
    exact ⟨tp_fwd_is_truePartial p x e hwf hs hd, tp_fwd_is_truePartial p x e hwf hs hd⟩
  · rw [routes_componentAt_early x hwf hs (fun hd => absurd hd hnd) hnew]
    exact ⟨routes_fwdG_off x hwf hs hnd, routes_fwdG_off x hwf hs hnd⟩

/-- C09obj, early `Differential`, `.at(p)`.  At every supplied point
`Differential(e, compute_early=True).at(p)` equals the fresh late `Differential(e).at(p)`: the same
`LocatedDifferential` on the domain (outside K1), the same `DomainError` off it.  Hence every
`.at(p).component(x)` agrees, too. -/
theorem differential_early_at_eq_late_partial (e : Expr ℝ) (hwf : WF e)
    (hK1r : ∀ y s, SAcc.get? (syntheticPartials realNum e) y = some s →
      NormOK K1FreeAt REDUCTION_STEPS_BOUND NORMALIZE_FUEL s)
    (D : DifferentialObj ℝ) (w : Bool) (hnew : DifferentialObj.new realNum e true = .ok (D, w))
    (p : Point ℝ) (hs : Supp p e) :
    D.at realNum p = (DifferentialObj.mk e none).at realNum p ∧
      ∀ x, D.answer realNum (.atComponent x p) =
        (DifferentialObj.mk e none).answer realNum (.atComponent x p) :=
  have h : D.at realNum p = (DifferentialObj.mk e none).at realNum p := by
    rw [routes_differential_early_at hwf hs (fun _ => hK1r) hnew,
      routes_differential_late_at p e hwf hs]
  ⟨h, fun x => by simp only [DifferentialObj.answer, h]⟩

/-- the values of `.at(p).component(x)`: the true partial on the domain; off the domain `.at(p)`
itself raises `DomainError`, for any `Differential` of `e`, with no K1 hypothesis -/
theorem differential_at_component_values (e : Expr ℝ) (hwf : WF e) (x : String) (p : Point ℝ)
    (hs : Supp p e) :
    (Dom (valOf p) e → (DifferentialObj.mk e none).answer realNum (.atComponent x p) =
        .num (.ok (truePartial p x e))) ∧
    (¬ Dom (valOf p) e → ∀ D : DifferentialObj ℝ, D.orig = e →
        D.at realNum p = .error .domain) :=
  ⟨fun hd => congrArg FOut.num
      ((routes_FATL_supplied x hwf hs).trans (tp_fwd_is_truePartial p x e hwf hs hd)),
    fun hnd D hD => by
      subst hD
      simp only [DifferentialObj.at, routes_evalG_off hwf hs hnd, rmonad]⟩

/-- the `Partial` handed out by `component(x)` of an early `Differential` stores the (reverse-mode)
component and is therefore immutable; after any history its `.at(p)` answers like a fresh late
`Partial(e, x)`.  (Its `as_expression()` returns the stored reverse-mode component, which by the
recorded finding K2 need not be the same tree as the late object's — C06.) -/
theorem differential_early_component_history_partial (e : Expr ℝ) (x : String) (hwf : WF e)
    (hK1r : ∀ y s, SAcc.get? (syntheticPartials realNum e) y = some s →
      NormOK K1FreeAt REDUCTION_STEPS_BOUND NORMALIZE_FUEL s)
    (hK1f : NormOK K1FreeAt REDUCTION_STEPS_BOUND NORMALIZE_FUEL (symFwd realNum x e))
    (D : DifferentialObj ℝ) (w : Bool) (hnew : DifferentialObj.new realNum e true = .ok (D, w))
    (P : PartialObj ℝ) (w' : Bool) (hc : D.component realNum x = .ok (P, w'))
    (ops : List (POp ℝ)) (p : Point ℝ) (hs : Supp p e) :
    ((P.run realNum ops).1.step realNum (.at p)).2 =
      PartialObj.freshAnswer realNum e x (.at p) := by
  obtain ⟨d, hn, rfl⟩ := differentialNew_early realNum e hnew
  rw [DifferentialObj.component_stored] at hc
  cases hc
  cases hg : SAcc.get? d x with
  | none => exact oh_memoOf_num (oh_after_history hwf hK1f (oh_inv_fresh realNum e x) ops (.at p) hs)
  | some s =>
    rw [oh_run_stored, oh_step_at_some, oh_fresh_at]
    exact congrArg POut.num (routes_at_stored x hwf hs fun hd =>
      normalizeAll_eval hwf hs hd hn hK1r hg)

/-- the hypotheses hold for `e = x * sin x`, and the history
`[at p, as_expression, at q, as_expression, at p]` on the fresh object `Partial(e, "x")` is computed:
the three numbers are the true partials (what fresh objects answer), both expressions are
`Add(Sine(x), Multiply(Cosine(x), x))` (no warning), the final state stores that expression -/
example :
    let e : Expr ℝ := mkMul [mkVar "x", mkSin (mkVar "x")]
    let s : Expr ℝ := mkAdd [mkSin (mkVar "x"), mkMul [mkCos (mkVar "x"), mkVar "x"]]
    let p : Point ℝ := [("x", 2)]
    let q : Point ℝ := [("y", 5), ("x", -1)]
    WF e ∧ NormOK K1FreeAt REDUCTION_STEPS_BOUND NORMALIZE_FUEL (symFwd realNum "x" e) ∧
      Supp p e ∧ Supp q e ∧
      PartialObj.new realNum e "x" false = .ok (⟨e, "x", none⟩, false) ∧
      (PartialObj.mk e "x" none).run realNum [.at p, .asExpr, .at q, .asExpr, .at p] =
        (⟨e, "x", some s⟩,
          [.num (.ok (truePartial p "x" e)), .expr (.ok (s, false)),
            .num (.ok (truePartial q "x" e)), .expr (.ok (s, false)),
            .num (.ok (truePartial p "x" e))]) ∧
      truePartial p "x" e = Real.sin 2 + Real.cos 2 * 2 ∧
      truePartial q "x" e = Real.sin (-1) + Real.cos (-1) * (-1) := by
  intro e s p q
  have hp : Supp p e := by simp [e, p, Supp, SuppList, Point.get?]
  have hq : Supp q e := by simp [e, q, Supp, SuppList, Point.get?]
  refine ⟨oh_exXsin_wf, oh_exXsin_K1, hp, hq, rfl, oh_exXsin_run p q hp hq, ?_, ?_⟩
  · rw [oh_exXsin_value p hp]; simp [p, valOf, Point.get?]
  · rw [oh_exXsin_value q hq]; simp [q, valOf, Point.get?]

/-- the same history on the early object `Partial(x * sin x, "x", compute_early=True)`: the
construction succeeds, and the theorems apply to it: e.g. its final `.at(p)` is the fresh answer -/
example :
    let e : Expr ℝ := mkMul [mkVar "x", mkSin (mkVar "x")]
    let s : Expr ℝ := mkAdd [mkSin (mkVar "x"), mkMul [mkCos (mkVar "x"), mkVar "x"]]
    let p : Point ℝ := [("x", 2)]
    PartialObj.new realNum e "x" true = .ok (⟨e, "x", some s⟩, false) ∧
      (((PartialObj.mk e "x" (some s)).run realNum [.at p, .asExpr, .at p, .asExpr]).1.step realNum
        (.at p)).2 = .num ((PartialObj.mk e "x" none).at realNum p) := by
  intro e s p
  have hnew : PartialObj.new realNum e "x" true = .ok (⟨e, "x", some s⟩, false) :=
    (PartialObj.new_early_eq_ok realNum).mpr ⟨s, oh_exXsin_retrieve, rfl⟩
  exact ⟨hnew, partial_at_history_independent_partial e "x" oh_exXsin_wf oh_exXsin_K1 true _ _ hnew
    _ p (by simp [e, p, Supp, SuppList, Point.get?])⟩

/-- a history with a point off the domain: `Partial(Reciprocal(y), "y")`,
`[at (y=2), as_expression, at (y=0), as_expression, at (y=2)]`: the call at `y = 0` raises
`DomainError` although the stored expression is there — exactly as a fresh object does -/
example :
    (PartialObj.mk (mkRecip (mkVar "y") : Expr ℝ) "y" none).run realNum
        [.at [("y", 2)], .asExpr, .at [("y", 0)], .asExpr, .at [("y", 2)]] =
      (⟨mkRecip (mkVar "y"), "y", some (mkNeg (mkRecip (mkNPow (mkVar "y") 2)))⟩,
        [.num (.ok (truePartial [("y", 2)] "y" (mkRecip (mkVar "y")))),
          .expr (.ok (mkNeg (mkRecip (mkNPow (mkVar "y") 2)), false)),
          .num (.error .domain),
          .expr (.ok (mkNeg (mkRecip (mkNPow (mkVar "y") 2)), false)),
          .num (.ok (truePartial [("y", 2)] "y" (mkRecip (mkVar "y"))))]) ∧
      PartialObj.freshAnswer realNum (mkRecip (mkVar "y") : Expr ℝ) "y" (.at [("y", 0)]) =
        .num (.error .domain) :=
  oh_exRc_run

/-- the hypotheses of the `Derivative` theorems hold for `Reciprocal(y)` (single variable `y`), late and
early; a history with all three kinds of call, one of them off the domain -/
example :
    let e : Expr ℝ := mkRecip (mkVar "y")
    WF e ∧ singleVarName e = .ok "y" ∧
      NormOK K1FreeAt REDUCTION_STEPS_BOUND NORMALIZE_FUEL (symFwd realNum "y" e) ∧
      DerivativeObj.new realNum e false = .ok (⟨e, "y", ⟨e, "y", none⟩⟩, false) ∧
      DerivativeObj.new realNum e true =
        .ok (⟨e, "y", ⟨e, "y", some (mkNeg (mkRecip (mkNPow (mkVar "y") 2)))⟩⟩, false) ∧
      (∀ o ∈ [DOp.atNumber 0, DOp.asExpr, DOp.at [("y", (2 : ℝ))], DOp.atNumber 0],
        DOp.Supplies e o) := by
  intro e
  have hx : singleVarName e = .ok "y" := by
    simp [e, singleVarName, vars, varsAux, pure, Except.pure]
  refine ⟨oh_exRc_wf, hx, runRc_K1Fwd, ?_, ?_, ?_⟩
  · rw [DerivativeObj.new, hx]
    rfl
  · rw [DerivativeObj.new, hx, R.ok_bind,
      (PartialObj.new_early_eq_ok realNum).mpr ⟨_, oh_exRc_retrieve, rfl⟩]
    rfl
  · intro o ho
    simp only [List.mem_cons, List.not_mem_nil, or_false] at ho
    rcases ho with rfl | rfl | rfl | rfl
    · trivial
    · trivial
    · simp [DOp.Supplies, e, Supp, Point.get?]
    · trivial

/-- the hypotheses of the `Differential` theorems hold for `x * y` (the early object is built, every
stored component is outside K1), at a point listing the coordinates in another order -/
example :
    let e : Expr ℝ := mkMul [mkVar "x", mkVar "y"]
    DifferentialObj.new realNum e true = .ok (⟨e, some [("x", mkVar "y"), ("y", mkVar "x")]⟩, false) ∧
      (∀ z s, SAcc.get? (syntheticPartials realNum e) z = some s →
        NormOK K1FreeAt REDUCTION_STEPS_BOUND NORMALIZE_FUEL s) ∧
      NormOK K1FreeAt REDUCTION_STEPS_BOUND NORMALIZE_FUEL (symFwd realNum "x" e) ∧
      WF e ∧ Supp [("y", 2), ("x", 3)] e ∧ Dom (valOf [("y", 2), ("x", 3)]) e :=
  ⟨symrevEx_differential "x" "y" (by decide), runXY_K1Rev, runXY_K1Fwd,
    by simp [WF, WFList, Supp, SuppList, Dom, DomList, Point.get?]⟩

/-- K1: the hypothesis cannot be dropped.  For `e = x * NthRoot(NthPower(x, 2), 2)` (= x·|x|) and
the point `x = -3` of the domain: a fresh object answers `6` (the true partial); after the history
`[as_expression]` the very same call answers `-6`; the K1 side condition fails for this input.  The
transcript of `[at, as_expression, at]` at that point is `6`, `x + (x * x) / x`, `-6`. -/
theorem partial_history_K1_witness :
    let e : Expr ℝ := mkMul [mkVar "x", mkNRoot (mkNPow (mkVar "x") 2) 2]
    let p : Point ℝ := [("x", -3)]
    WF e ∧ Supp p e ∧ Dom (valOf p) e ∧
      PartialObj.freshAnswer realNum e "x" (.at p) = .num (.ok 6) ∧
      (((PartialObj.mk e "x" none).run realNum [.asExpr]).1.step realNum (.at p)).2 =
        .num (.ok (-6)) ∧
      ¬ NormOK K1FreeAt REDUCTION_STEPS_BOUND NORMALIZE_FUEL (symFwd realNum "x" e) ∧
      ((PartialObj.mk e "x" none).run realNum [.at p, .asExpr, .at p]).2 =
        [.num (.ok 6),
          .expr (.ok (mkAdd [mkVar "x", mkDiv (mkMul [mkVar "x", mkVar "x"]) (mkVar "x")], false)),
          .num (.ok (-6))] := by
  intro e p
  let s : Expr ℝ := mkAdd [mkVar "x", mkDiv (mkMul [mkVar "x", mkVar "x"]) (mkVar "x")]
  obtain ⟨hwf, hs, hd, hfd⟩ : WF e ∧ Supp p e ∧ Dom (valOf p) e ∧ fwdG realNum p "x" e = .ok 6 :=
    runXabs_true_partial
  have hret : retrieveSyntheticPartial realNum e "x" = .ok (s, false) :=
    (asExpression_late runXabs_asExpression).1
  have hrv : evalG realNum p s = .ok (-6) := runXabs_returned_value
  have hat : (PartialObj.mk e "x" (some s)).at realNum p = .ok (-6) := by
    simp only [PartialObj.at, routes_evalG_ok hwf hs hd, hrv, rmonad]
  have h5 : (((PartialObj.mk e "x" none).run realNum [.asExpr]).1.step realNum (.at p)).2 =
      .num (.ok (-6)) := by
    rw [oh_run_cons, oh_run_nil, oh_step_asExpr_none_ok realNum hret, oh_step_at_some, hat]
  refine ⟨hwf, hs, hd, congrArg POut.num hfd, h5, fun hK1 => ?_, ?_⟩
  · have h : POut.num (.ok (-6 : ℝ)) = .num (.ok 6) := h5.symm.trans ((oh_memoOf_num
      (oh_after_history hwf hK1 (oh_inv_fresh realNum e "x") [.asExpr] (.at p) hs)).trans
      (congrArg POut.num hfd))
    exact absurd (Except.ok.inj (POut.num.inj h)) (by norm_num)
  · simp only [oh_run_cons, oh_run_nil, oh_step_at_none, oh_step_asExpr_none_ok realNum hret,
      oh_step_at_some, hfd, hat]
    rfl

/-- the same defect seen through the routes of C06 (`|x|` at `x = -3`): the late object answers `-1`,
the early one and the late one after `as_expression()` answer `+1` -/
example :
    routePL realNum (mkNRoot (mkNPow (mkVar "x") 2) 2) "x" [("x", (-3 : ℝ))] = .ok (-1) ∧
      routePE realNum (mkNRoot (mkNPow (mkVar "x") 2) 2) "x" [("x", (-3 : ℝ))] = .ok 1 ∧
      routePA realNum (mkNRoot (mkNPow (mkVar "x") 2) 2) "x" [("x", (-3 : ℝ))] = .ok 1 :=
  runK1_routes_disagree

end Smooth
