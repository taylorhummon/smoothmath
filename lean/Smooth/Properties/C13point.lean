/-
C13 (points) — The printed form of a `Point` echoes the point, whatever its coordinate names are.

`Point._to_string` (with fix F4) prints `Point(x=1, y=2)` only if every coordinate name can be
written as a keyword argument (`_can_be_written_as_keyword`: an identifier, not a reserved word,
unchanged by NFKC normalisation) and otherwise `Point(**{"x": 1, "1y": 2})`, which `eval` accepts for
any names at all.  The model is `renderPointWith kw p`, with the predicate `kw : String → Bool`
kept abstract: nothing below depends on which names are expressible.

Tokens: `PTok α` extends the expression tokens (`.tok t`) by `**` (`.star2`), `{` (`.lb`), `}` (`.rb`)
and `:` (`.colon`).  Names in the dictionary form are string tokens (`.str x`), in the keyword form
identifier tokens (`.ident x`).

Side conditions: none on the point (names may repeat, be empty, be reserved words, …), none on the
numbers, none on `kw`.
-/
import Smooth.Proofs.PointDict
import Smooth.Real.Instance

namespace Smooth
variable {α : Type}

/-- Keyword form.  If every coordinate name can be written as a keyword argument the point prints
as `Point(x=1, y=2)`, the tokens of `renderPoint`. -/
theorem renderPointWith_plain (kw : String → Bool) (p : Point α)
    (h : ∀ xv ∈ p, kw xv.1 = true) :
    renderPointWith kw p = (renderPoint p).map .tok :=
  pd_plain kw p h

/-- Dictionary form.  If some coordinate name cannot be written as a keyword argument the point
prints as `Point(**{"x": 1, "1y": 2})`: the items `"name": value` in the order of the point,
separated by commas, between `Point(**{` and `})`.  All names are then written as strings, also the
expressible ones. -/
theorem renderPointWith_dict (kw : String → Bool) (p : Point α)
    (h : ¬ ∀ xv ∈ p, kw xv.1 = true) :
    renderPointWith kw p =
      .tok (.ident "Point") :: .tok .lp :: .star2 :: .lb ::
        (List.intercalate [.tok .comma]
            (p.map fun (x, v) => [PTok.tok (.str x), .colon, .tok (.num v)])
          ++ [.rb, .tok .rp]) :=
  pd_dict kw p h

/-- The printed form determines the point (names, values and their order), for every choice of
the expressibility predicate and without any assumption on the names: the two forms cannot be
confused, and each of them can be read back. -/
theorem renderPointWith_injective (kw : String → Bool) {p q : Point α}
    (h : renderPointWith kw p = renderPointWith kw q) : p = q :=
  pd_injective kw h

/-- and conversely, trivially: printing is a function of the point -/
theorem renderPointWith_eq_iff (kw : String → Bool) (p q : Point α) :
    renderPointWith kw p = renderPointWith kw q ↔ p = q :=
  ⟨pd_injective kw, fun h => h ▸ rfl⟩

/-- The form tells whether all names are expressible: the third token is `**` exactly when some
name cannot be written as a keyword argument. -/
theorem renderPointWith_form (kw : String → Bool) (p : Point α) :
    (renderPointWith kw p)[2]? = some .star2 ↔ ¬ (∀ xv ∈ p, kw xv.1 = true) :=
  pd_form kw p

/-- The empty point prints as `Point()` (it has no name that could fail to be expressible). -/
theorem renderPointWith_empty (kw : String → Bool) :
    renderPointWith kw ([] : Point α) = [.tok (.ident "Point"), .tok .lp, .tok .rp] := rfl

/-! ### examples (non-vacuity): `class` is a reserved word -/

/-- `Point(**{"x": 1, "class": 2})` -/
example : renderPointWith (fun s => s != "class") ([("x", 1), ("class", 2)] : Point ℝ) =
    [.tok (.ident "Point"), .tok .lp, .star2, .lb,
      .tok (.str "x"), .colon, .tok (.num 1), .tok .comma,
      .tok (.str "class"), .colon, .tok (.num 2), .rb, .tok .rp] := by
  rw [renderPointWith_dict _ _ (by simp)]
  simp [List.intercalate]

/-- the same straight from the model -/
example : renderPointWith (fun s => s != "class") ([("x", 1), ("class", 2)] : Point ℝ) =
    [.tok (.ident "Point"), .tok .lp, .star2, .lb,
      .tok (.str "x"), .colon, .tok (.num 1), .tok .comma,
      .tok (.str "class"), .colon, .tok (.num 2), .rb, .tok .rp] := by
  simp [renderPointWith, joinComma]

/-- `Point(x=1, y=2)` -/
example : renderPointWith (fun s => s != "class") ([("x", 1), ("y", 2)] : Point ℝ) =
    [.tok (.ident "Point"), .tok .lp, .tok (.ident "x"), .tok .eqs, .tok (.num 1), .tok .comma,
      .tok (.ident "y"), .tok .eqs, .tok (.num 2), .tok .rp] := by
  rw [renderPointWith_plain _ _ (by simp)]
  simp [renderPoint, joinComma]

/-- the hypotheses of both forms are met, and the form test tells them apart -/
example :
    (renderPointWith (fun s => s != "class") ([("x", 1), ("class", 2)] : Point ℝ))[2]? = some .star2 ∧
    (renderPointWith (fun s => s != "class") ([("x", 1), ("y", 2)] : Point ℝ))[2]? ≠ some .star2 := by
  constructor
  · exact (renderPointWith_form _ _).mpr (by simp)
  · exact fun h => (renderPointWith_form _ _).mp h (by simp)

/-- names that are not identifiers at all (here: empty, with a space, repeated) are printed and
distinguished just the same -/
example : renderPointWith (fun s => s != "class") ([("", 1), ("a b", 2), ("", 3)] : Point ℝ)
    ≠ renderPointWith (fun s => s != "class") ([("", 1), ("a b", 2), ("", 4)] : Point ℝ) := by
  intro h
  have := renderPointWith_injective _ h
  norm_num at this

end Smooth
