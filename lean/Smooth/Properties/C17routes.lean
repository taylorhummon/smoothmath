/-
C17 (object layer) and C16 (everything handed out is constructible) — the error kinds of every public
differentiation route, and the well-formedness of every expression the library returns.

"From every public entry point only the library's own exceptions escape (DomainError,
CoordinateMissing, the documented generic Exception for misuse such as `Derivative` of a two-variable
expression) — never ZeroDivisionError, ValueError('math domain error'), a complex result …"

In the model a CPython-level error would be the outcome `.error .zeroDiv | .valueErr | .complex`;
`.unsupported` is only produced by the exact-rational instance, and `.fuel` only by `liftFuel` when
the structural fuel of the model's `normalizeF` runs out (a model artefact, see section 4).
Properties/C17.lean covers `evalG`, `fwdG`, `revG`, `numericPartials`, `atNumber`.  This file covers
the object layer: the thirteen numeric routes `routePL … routeLD` and the six `as_expression()` routes
`routeExprP … routeExprFL` of Model/Routes.lean (see Properties/C06.lean for the table of routes).

The routes with `compute_early=True` or after `as_expression()` simplify the symbolic derivative and
then evaluate the simplified tree.  The evaluator's error kinds are known for well-formed trees
(`WF`: n ≥ 1, bases > 0, logarithm base ≠ 1), so the key fact is section 1: simplification keeps `WF`
— unconditionally, without any K1-free hypothesis (the K1 rule `NthRoot(NthPower(u, m), n) ⇒
NthPower(NthRoot(u, n), m)` changes the meaning of the tree, not its well-formedness).  Section 1 is
at the same time a C16 statement: every expression the library hands out is one its own constructors
would accept.

Proofs: Proofs/WFDriver.lean (section 1), Proofs/WFRoutes.lean (sections 2, 3),
Proofs/WFObjects.lean (section 2b), Proofs/WFFuel.lean and Proofs/WFFuelSym.lean (section 4).
Sections 1, 2, 2b and the last two theorems of section 4 are over `realNum`; section 3 and the rest
of section 4 hold for every number instance.
-/
import Smooth.Proofs.WFDriver
import Smooth.Proofs.WFRoutes
import Smooth.Proofs.WFObjects
import Smooth.Proofs.WFFuel
import Smooth.Proofs.WFFuelSym
import Smooth.Proofs.RoutesRun

namespace Smooth
open Expr

/-! ## 1. simplification keeps well-formedness, unconditionally -/

/-- every one of the 46 rewrite rules maps a well-formed expression to a well-formed expression
(no side condition; the K1 rule `nrootPow` included) -/
theorem rule_keeps_WF (r : RuleId) (e e' : Expr ℝ) (h : r.apply realNum e = some e') (hwf : WF e) :
    WF e' :=
  wfd_rule r h hwf

/-- constant folding (`_consolidate_expression_lacking_variables`): whatever `foldAttempt` answers,
the node that replaces `e` in `stepNode` — the `Constant` of the value, or `e` with
`_evaluation_failed` set — is well formed -/
theorem fold_keeps_WF (e : Expr ℝ) (hwf : WF e) :
    (∀ v, foldAttempt realNum e = some (.inl v) → WF (mkConst v : Expr ℝ)) ∧ WF e.markFailed :=
  ⟨fun v _ => wfd_fold v, (wf_markFailed e).mpr hwf⟩

/-- one call of `_take_reduction_step` (rule, constant fold, child step or flag) -/
theorem step_keeps_WF (e : Expr ℝ) (hwf : WF e) : WF (stepF realNum e).1 :=
  wfd_stepF e hwf

/-- the `_fully_reduce` loop, for every budget — also when the budget runs out and the partially
reduced form is returned with a warning -/
theorem fullyReduce_keeps_WF (bound : Nat) (e : Expr ℝ) (hwf : WF e) :
    WF (fullyReduceWith realNum bound e).expr :=
  wfd_fullyReduceWith bound hwf

/-- the normal-form pass `_normalize_fully_reduced` (every budget, every fuel) -/
theorem normReduced_keeps_WF (bound fuel : Nat) (e e' : Expr ℝ) (w : Bool)
    (h : normReducedF realNum bound fuel e = some (e', w)) (hwf : WF e) : WF e' :=
  wfd_normReducedF bound fuel hwf h

/-- `_normalize()` (every budget, every fuel) -/
theorem normalize_keeps_WF (bound fuel : Nat) (e e' : Expr ℝ) (w : Bool)
    (h : normalizeF realNum bound fuel e = some (e', w)) (hwf : WF e) : WF e' :=
  wfd_normalizeF bound fuel hwf h

/-- `_retrieve_synthetic_partial`: the simplified symbolic partial of a well-formed expression is
well formed -/
theorem retrieveSyntheticPartial_WF (e : Expr ℝ) (x : String) (s : Expr ℝ) (w : Bool)
    (h : retrieveSyntheticPartial realNum e x = .ok (s, w)) (hwf : WF e) : WF s :=
  wfd_retrieve h hwf

/-- the table of `Differential(e, compute_early=True)`: every stored component is well formed -/
theorem differential_table_WF (e : Expr ℝ) (d : SAcc ℝ) (w : Bool)
    (h : normalizeAll realNum (syntheticPartials realNum e) = .ok (d, w)) (hwf : WF e) :
    ∀ b ∈ d, WF b.2 :=
  wfd_differential_table h hwf

/-- as an object: the table inside the constructed `Differential` -/
theorem differentialNew_table_WF (e : Expr ℝ) (D : DifferentialObj ℝ) (w : Bool)
    (h : DifferentialObj.new realNum e true = .ok (D, w)) (hwf : WF e) :
    ∃ d, D.syn = some d ∧ ∀ b ∈ d, WF b.2 := by
  obtain ⟨d, hn, rfl⟩ := differentialNew_early realNum e h
  exact ⟨d, rfl, wfd_differential_table hn hwf⟩

/-- C16/C17: every expression an `as_expression()` route returns is well formed — the six routes
by name -/
theorem exprRoutes_WF (e : Expr ℝ) (x : String) (s : Expr ℝ) (w : Bool) (hwf : WF e) :
    (routeExprP realNum e x = .ok (s, w) → WF s) ∧
    (routeExprPE realNum e x = .ok (s, w) → WF s) ∧
    (routeExprD realNum e = .ok (s, w) → WF s) ∧
    (routeExprDE realNum e = .ok (s, w) → WF s) ∧
    (routeExprFE realNum e x = .ok (s, w) → WF s) ∧
    (routeExprFL realNum e x = .ok (s, w) → WF s) :=
  ⟨fun h => wfd_routeExprP h hwf, fun h => wfd_routeExprPE h hwf, fun h => wfd_routeExprD h hwf,
    fun h => wfd_routeExprDE h hwf, fun h => wfd_routeExprFE h hwf, fun h => wfd_routeExprFL h hwf⟩

/-! ## 2. error kinds of the thirteen numeric routes -/

theorem routePL_error_kinds (e : Expr ℝ) (x : String) (p : Point ℝ) (hwf : WF e) (err : Err)
    (h : routePL realNum e x p = .error err) : err = .domain ∨ err = .missing ∨ err = .fuel :=
  wfd_routePL_error hwf h

theorem routePE_error_kinds (e : Expr ℝ) (x : String) (p : Point ℝ) (hwf : WF e) (err : Err)
    (h : routePE realNum e x p = .error err) : err = .domain ∨ err = .missing ∨ err = .fuel :=
  wfd_routePE_error hwf h

theorem routePA_error_kinds (e : Expr ℝ) (x : String) (p : Point ℝ) (hwf : WF e) (err : Err)
    (h : routePA realNum e x p = .error err) : err = .domain ∨ err = .missing ∨ err = .fuel :=
  wfd_routePA_error hwf h

/-- the `Derivative` routes: additionally the documented generic exception (two or more variables) -/
theorem routeDL_error_kinds (e : Expr ℝ) (p : Point ℝ) (hwf : WF e) (err : Err)
    (h : routeDL realNum e p = .error err) :
    err = .domain ∨ err = .missing ∨ err = .fuel ∨ err = .usage :=
  wfd_routeDL_error hwf h

theorem routeDE_error_kinds (e : Expr ℝ) (p : Point ℝ) (hwf : WF e) (err : Err)
    (h : routeDE realNum e p = .error err) :
    err = .domain ∨ err = .missing ∨ err = .fuel ∨ err = .usage :=
  wfd_routeDE_error hwf h

theorem routeDA_error_kinds (e : Expr ℝ) (p : Point ℝ) (hwf : WF e) (err : Err)
    (h : routeDA realNum e p = .error err) :
    err = .domain ∨ err = .missing ∨ err = .fuel ∨ err = .usage :=
  wfd_routeDA_error hwf h

theorem routeFCL_error_kinds (e : Expr ℝ) (x : String) (p : Point ℝ) (hwf : WF e) (err : Err)
    (h : routeFCL realNum e x p = .error err) : err = .domain ∨ err = .missing ∨ err = .fuel :=
  wfd_routeFCL_error hwf h

theorem routeFCE_error_kinds (e : Expr ℝ) (x : String) (p : Point ℝ) (hwf : WF e) (err : Err)
    (h : routeFCE realNum e x p = .error err) : err = .domain ∨ err = .missing ∨ err = .fuel :=
  wfd_routeFCE_error hwf h

theorem routeFCAL_error_kinds (e : Expr ℝ) (x : String) (p : Point ℝ) (hwf : WF e) (err : Err)
    (h : routeFCAL realNum e x p = .error err) : err = .domain ∨ err = .missing ∨ err = .fuel :=
  wfd_routeFCAL_error hwf h

theorem routeFCAE_error_kinds (e : Expr ℝ) (x : String) (p : Point ℝ) (hwf : WF e) (err : Err)
    (h : routeFCAE realNum e x p = .error err) : err = .domain ∨ err = .missing ∨ err = .fuel :=
  wfd_routeFCAE_error hwf h

theorem routeFATL_error_kinds (e : Expr ℝ) (x : String) (p : Point ℝ) (hwf : WF e) (err : Err)
    (h : routeFATL realNum e x p = .error err) : err = .domain ∨ err = .missing ∨ err = .fuel :=
  wfd_routeFATL_error hwf h

theorem routeFATE_error_kinds (e : Expr ℝ) (x : String) (p : Point ℝ) (hwf : WF e) (err : Err)
    (h : routeFATE realNum e x p = .error err) : err = .domain ∨ err = .missing ∨ err = .fuel :=
  wfd_routeFATE_error hwf h

theorem routeLD_error_kinds (e : Expr ℝ) (x : String) (p : Point ℝ) (hwf : WF e) (err : Err)
    (h : routeLD realNum e x p = .error err) : err = .domain ∨ err = .missing ∨ err = .fuel :=
  wfd_routeLD_error hwf h

/-- sharper, for the six routes that never run the simplifier (`compute_early=False`, no
`as_expression()`): `.fuel` cannot occur either -/
theorem late_routes_error_kinds (e : Expr ℝ) (x : String) (p : Point ℝ) (hwf : WF e) (err : Err) :
    (routePL realNum e x p = .error err → err = .domain ∨ err = .missing) ∧
    (routeFCL realNum e x p = .error err → err = .domain ∨ err = .missing) ∧
    (routeFCAL realNum e x p = .error err → err = .domain ∨ err = .missing) ∧
    (routeFATL realNum e x p = .error err → err = .domain ∨ err = .missing) ∧
    (routeLD realNum e x p = .error err → err = .domain ∨ err = .missing) ∧
    (routeDL realNum e p = .error err → err = .domain ∨ err = .missing ∨ err = .usage) :=
  wfd_late_routes_error hwf

/-- all thirteen at once (`numericRoutes`, Proofs/WFRoutes.lean: the routes as functions of
`(e, x, p)`; the `Derivative` routes ignore `x`) -/
theorem numericRoutes_error_kinds (e : Expr ℝ) (x : String) (p : Point ℝ) (hwf : WF e) (err : Err) :
    ∀ route ∈ numericRoutes, route e x p = .error err →
      err = .domain ∨ err = .missing ∨ err = .fuel ∨ err = .usage :=
  wfd_numericRoutes_error hwf

theorem numericRoutes_eq : numericRoutes =
    [routePL realNum, routePE realNum, routePA realNum,
      fun e _ p => routeDL realNum e p, fun e _ p => routeDE realNum e p,
      fun e _ p => routeDA realNum e p,
      routeFCL realNum, routeFCE realNum, routeFCAL realNum, routeFCAE realNum,
      routeFATL realNum, routeFATE realNum, routeLD realNum] := rfl

/-- C17 for the object layer: no route ever produces a CPython-level error (nor the
exact-rational instance's `unsupported`), at any point whatsoever — inside, outside or on the boundary
of the domain, with or without missing coordinates, K1 or not -/
theorem no_python_error_routes (e : Expr ℝ) (x : String) (p : Point ℝ) (hwf : WF e) :
    ∀ route ∈ numericRoutes, ∀ k ∈ [Err.zeroDiv, .valueErr, .complex, .unsupported],
      route e x p ≠ .error k :=
  wfd_numericRoutes_no_python_error hwf

/-- the same, route by route and error by error (nothing hidden in a list) -/
theorem no_python_error_routes_named (e : Expr ℝ) (x : String) (p : Point ℝ) (hwf : WF e)
    (k : Err) (hk : k = .zeroDiv ∨ k = .valueErr ∨ k = .complex ∨ k = .unsupported) :
    routePL realNum e x p ≠ .error k ∧ routePE realNum e x p ≠ .error k ∧
    routePA realNum e x p ≠ .error k ∧ routeDL realNum e p ≠ .error k ∧
    routeDE realNum e p ≠ .error k ∧ routeDA realNum e p ≠ .error k ∧
    routeFCL realNum e x p ≠ .error k ∧ routeFCE realNum e x p ≠ .error k ∧
    routeFCAL realNum e x p ≠ .error k ∧ routeFCAE realNum e x p ≠ .error k ∧
    routeFATL realNum e x p ≠ .error k ∧ routeFATE realNum e x p ≠ .error k ∧
    routeLD realNum e x p ≠ .error k :=
  wfd_numericRoutes_named hwf k hk

/-! ## 2b. the same as an invariant of the objects, method by method

The thirteen routes are compositions of the methods of Model/Objects.lean.  The statements here are
about the methods themselves, for any object that satisfies the invariant "the original is well formed
and so is every stored simplified expression" (`PartialObj.WFInv`, `DerivativeObj.WFInv`,
`DifferentialObj.WFInv`, Proofs/WFObjects.lean) — which every public constructor establishes and every
method keeps.  So the error kinds hold for every sequence of public calls, not only for the thirteen
compositions. -/

/-- the constructors: `Partial(e, x[, compute_early])`, `Derivative(e[, compute_early])`,
`Differential(e[, compute_early])`, `LocatedDifferential(e, p)` -/
theorem constructors_error_kinds_and_invariant (e : Expr ℝ) (x : String) (early : Bool)
    (hwf : WF e) :
    ((∀ err, PartialObj.new realNum e x early = .error err → err = .fuel) ∧
      ∀ P w, PartialObj.new realNum e x early = .ok (P, w) → P.WFInv) ∧
    ((∀ err, DerivativeObj.new realNum e early = .error err → err = .fuel ∨ err = .usage) ∧
      ∀ D w, DerivativeObj.new realNum e early = .ok (D, w) → D.WFInv) ∧
    ((∀ err, DifferentialObj.new realNum e early = .error err → err = .fuel) ∧
      ∀ D w, DifferentialObj.new realNum e early = .ok (D, w) → D.WFInv) ∧
    (∀ p err, LocatedObj.new realNum e p = .error err → err = .domain ∨ err = .missing) :=
  ⟨⟨(wfd_partialNew x early hwf).1, fun P w h => ((wfd_partialNew x early hwf).2 P w h).1⟩,
    wfd_derivativeNew early hwf,
    ⟨(wfd_differentialNew early hwf).1, fun D w h => ((wfd_differentialNew early hwf).2 D w h).1⟩,
    fun p err h => wfd_locatedNew hwf p err h⟩

/-- the methods of `Partial`: `.at(point)` raises `DomainError`/`CoordinateMissing` only;
`.as_expression()` can only run out of the model's fuel, returns a well-formed expression and keeps
the invariant -/
theorem partial_methods (P : PartialObj ℝ) (hP : P.WFInv) :
    (∀ p err, P.at realNum p = .error err → err = .domain ∨ err = .missing) ∧
    (∀ err, P.asExpression realNum = .error err → err = .fuel) ∧
    (∀ s P' w, P.asExpression realNum = .ok (s, P', w) → WF s ∧ P'.WFInv) :=
  ⟨fun p err h => wfd_partialAt hP p err h, (wfd_partialAsExpression hP).1,
    fun s P' w h => ⟨((wfd_partialAsExpression hP).2 s P' w h).1,
      ((wfd_partialAsExpression hP).2 s P' w h).2.1⟩⟩

theorem derivative_methods (D : DerivativeObj ℝ) (hD : D.WFInv) :
    (∀ p err, D.at realNum p = .error err → err = .domain ∨ err = .missing) ∧
    (∀ t err, D.atNumber realNum t = .error err → err = .domain ∨ err = .missing) ∧
    (∀ err, D.asExpression realNum = .error err → err = .fuel) ∧
    (∀ s D' w, D.asExpression realNum = .ok (s, D', w) → WF s ∧ D'.WFInv) :=
  ⟨fun p err h => (wfd_derivativeAt hD err).1 p h, fun t err h => (wfd_derivativeAt hD err).2 t h,
    (wfd_derivativeAsExpression hD).1, (wfd_derivativeAsExpression hD).2⟩

/-- the methods of `Differential`: `.component(variable)` never fails and yields a `Partial` with the
invariant; `.component_at(variable, point)` and `.at(point)` raise `DomainError`/`CoordinateMissing`
only (`LocatedDifferential.component` is total) -/
theorem differential_methods (D : DifferentialObj ℝ) (hD : D.WFInv) :
    (∀ x, ∃ P w, D.component realNum x = .ok (P, w) ∧ P.WFInv) ∧
    (∀ x p err, D.componentAt realNum x p = .error err → err = .domain ∨ err = .missing) ∧
    (∀ p err, D.at realNum p = .error err → err = .domain ∨ err = .missing) :=
  ⟨wfd_differentialComponent hD, fun x p err h => wfd_differentialComponentAt hD x p err h,
    fun p err h => wfd_differentialAt hD p err h⟩

/-! ## 3. error kinds of the six expression routes (nothing is evaluated)

These hold for every number instance and every expression, well formed or not. -/

/-- `Partial(e, x).as_expression()`, `Partial(e, x, compute_early=True).as_expression()`,
`Differential(e[, compute_early=True]).component(x).as_expression()` can only run out of the model's
fuel; the two `Derivative` routes can also raise the documented generic exception -/
theorem exprRoutes_error_kinds {α : Type} (N : Num α) (e : Expr α) (x : String) (err : Err) :
    (routeExprP N e x = .error err → err = .fuel) ∧
    (routeExprPE N e x = .error err → err = .fuel) ∧
    (routeExprD N e = .error err → err = .fuel ∨ err = .usage) ∧
    (routeExprDE N e = .error err → err = .fuel ∨ err = .usage) ∧
    (routeExprFE N e x = .error err → err = .fuel) ∧
    (routeExprFL N e x = .error err → err = .fuel) :=
  ⟨wfd_routeExprP_error N, wfd_routeExprPE_error N, wfd_routeExprD_error N,
    wfd_routeExprDE_error N, wfd_routeExprFE_error N, wfd_routeExprFL_error N⟩

/-- the `usage` outcome of the `Derivative` routes is exactly "not a single variable": it is the
error of `get_the_single_variable_name`, raised at construction -/
theorem derivative_usage_iff {α : Type} (N : Num α) (e : Expr α) :
    (routeExprD N e = .error .usage ↔ 2 ≤ e.vars.length) ∧
    (routeExprDE N e = .error .usage ↔ 2 ≤ e.vars.length) :=
  ⟨wfd_routeExprD_usage_iff N e, wfd_routeExprDE_usage_iff N e⟩

/-! ## 4. `.fuel` is a model artefact

`normalizeF`/`normReducedF` are fuel-indexed only because the Python recursion
(`Add/Multiply._normalize_fully_reduced` calls the full `_normalize()` of every term) is not
structural.  How the fuel is consumed: one unit per `_normalize` call and one per level of the
normal-form pass, i.e. at most two per level of the fully reduced tree, because after a
`_fully_reduce` that ended without the warning every node is flagged and every nested `_fully_reduce`
returns at once.  `wfdDepth` is the height of the tree (a leaf has depth 1).

Not covered (stated, not proved): runs in which `_fully_reduce` exhausts its budget of 1000 steps and
warns.  Then the nested `_fully_reduce` calls do real work again with fresh budgets, and the only
bound on the total is the non-explicit lexicographic termination measure of Proofs/Measure (C11); an
explicit fuel bound in terms of the depth alone does not follow.  Also not covered: expressions whose
memo flags lie (`Settled` fails) — no public constructor or operation produces such a tree (C11). -/

/-- every rule, and hence every reduction step, raises the depth of the tree by at most one; so
`_fully_reduce` with budget `bound` returns a tree at most `bound` levels deeper (any number instance)
-/
theorem fullyReduce_depth {α : Type} (N : Num α) (bound : Nat) (e : Expr α) :
    (∀ (r : RuleId) (e' : Expr α), r.apply N e = some e' → wfdDepth e' ≤ wfdDepth e + 1) ∧
    wfdDepth (stepF N e).1 ≤ wfdDepth e + 1 ∧
    wfdDepth (fullyReduceWith N bound e).expr ≤ wfdDepth e + bound :=
  ⟨fun r _ h => wfd_rule_depth N r h, wfd_stepF_depth N e, wfd_fullyReduceWith_depth N bound e⟩

/-- the normal-form pass on a tree all of whose nodes are flagged: `2 · depth` units suffice, for
every budget -/
theorem normReduced_enough_fuel {α : Type} (N : Num α) (bound fuel : Nat) (e : Expr α)
    (hred : wfdAllRed e) (hd : 2 * wfdDepth e ≤ fuel) :
    ∃ r, normReducedF N bound fuel e = some r :=
  wfd_normReducedF_some N bound fuel hred hd

/-- `_normalize()` does not run out of fuel: honest flags (`Settled`; in particular no flag at
all), no warning, and `2 · (depth + budget) + 1 ≤ fuel` -/
theorem normalize_enough_fuel {α : Type} (N : Num α) (bound fuel : Nat) (e : Expr α)
    (hs : Settled N e) (hw : (fullyReduceWith N bound e).warned = false)
    (hd : 2 * (wfdDepth e + bound) + 1 ≤ fuel) : ∃ r, normalizeF N bound fuel e = some r :=
  wfd_normalizeF_some N bound fuel hs hw hd

/-- with the constants of the implementation (`REDUCTION_STEPS_BOUND = 1000`,
`NORMALIZE_FUEL = 100000`): every expression of depth at most 48999 -/
theorem normalize_enough_fuel_default {α : Type} (N : Num α) (e : Expr α) (hs : Settled N e)
    (hw : (fullyReduce N e).warned = false) (hd : wfdDepth e ≤ 48999) :
    ∃ r, normalize N e = some r :=
  wfd_normalize_some N hs hw hd

/-- symbolic differentiation keeps the flags honest (fresh nodes around sub-trees of the original),
so the hypothesis `Settled` is about the user's expression only; an expression without any flag — as
every constructor builds it — is settled -/
theorem symbolic_keeps_settled {α : Type} (N : Num α) (e : Expr α) (hs : Settled N e) :
    (∀ x, Settled N (symFwd N x e)) ∧
    (∀ y s, SAcc.get? (syntheticPartials N e) y = some s → Settled N s) ∧
    Settled N e.fresh :=
  ⟨fun x => wfd_settled_symFwd N x e hs, fun _ _ h => wfd_settled_syntheticPartials N hs h,
    settled_fresh N e⟩

/-- `_retrieve_synthetic_partial` does not answer `.fuel` (it succeeds): honest flags, the
rewriter's run on the raw symbolic partial ends without the warning, depth of the raw partial ≤ 48999
-/
theorem retrieveSyntheticPartial_no_fuel {α : Type} (N : Num α) (e : Expr α) (x : String)
    (hs : Settled N e) (hw : (fullyReduce N (symFwd N x e)).warned = false)
    (hd : wfdDepth (symFwd N x e) ≤ 48999) :
    (∃ s w, retrieveSyntheticPartial N e x = .ok (s, w)) ∧
      retrieveSyntheticPartial N e x ≠ .error .fuel := by
  obtain ⟨s, w, h⟩ := wfd_retrieve_ok N x hs hw hd
  exact ⟨⟨s, w, h⟩, by rw [h]; intro h'; cases h'⟩

theorem differentialNew_no_fuel {α : Type} (N : Num α) (e : Expr α) (hs : Settled N e)
    (hw : ∀ y s, SAcc.get? (syntheticPartials N e) y = some s →
      (fullyReduce N s).warned = false ∧ wfdDepth s ≤ 48999) :
    ∃ D w, DifferentialObj.new N e true = .ok (D, w) := by
  obtain ⟨d, w, h⟩ := wfd_normalizeAll_ok N hs hw
  exact ⟨⟨e, some d⟩, w, DifferentialObj.new_early_of_ok N h⟩

/-- consequently the routes through the simplified forward partial raise only the library's own
errors — `.fuel` is gone from the list of section 2 -/
theorem forward_early_routes_error_kinds_enough_fuel (e : Expr ℝ) (x : String) (p : Point ℝ)
    (hwf : WF e) (hs : Settled realNum e)
    (hw : (fullyReduce realNum (symFwd realNum x e)).warned = false)
    (hd : wfdDepth (symFwd realNum x e) ≤ 48999) (err : Err) :
    (routePE realNum e x p = .error err → err = .domain ∨ err = .missing) ∧
    (routePA realNum e x p = .error err → err = .domain ∨ err = .missing) :=
  ⟨wfd_routePE_error_dm hwf (wfd_retrieve_ok realNum x hs hw hd),
    wfd_routePA_error_dm hwf (wfd_retrieve_ok realNum x hs hw hd)⟩

/-- the same for the routes through the table of an early `Differential` -/
theorem differential_early_routes_error_kinds_enough_fuel (e : Expr ℝ) (x : String) (p : Point ℝ)
    (hwf : WF e) (hs : Settled realNum e)
    (hw : ∀ y s, SAcc.get? (syntheticPartials realNum e) y = some s →
      (fullyReduce realNum s).warned = false ∧ wfdDepth s ≤ 48999) (err : Err) :
    (routeFCE realNum e x p = .error err → err = .domain ∨ err = .missing) ∧
    (routeFCAE realNum e x p = .error err → err = .domain ∨ err = .missing) ∧
    (routeFATE realNum e x p = .error err → err = .domain ∨ err = .missing) :=
  ⟨wfd_routeFCE_error_dm hwf (wfd_normalizeAll_ok realNum hs hw),
    wfd_routeFCAE_error_dm hwf (wfd_normalizeAll_ok realNum hs hw),
    wfd_routeFATE_error_dm hwf (wfd_normalizeAll_ok realNum hs hw)⟩

/-- `Divide(x, y)`: two variables, a genuine domain restriction -/
abbrev c17DivXY : Expr ℝ := mkDiv (mkVar "x") (mkVar "y")

example : WF c17DivXY := by simp [WF]

/-- at `y = 0` (outside the domain) the late routes raise `DomainError`; at `y = 2` they return a
number; with the coordinate `y` missing they raise `CoordinateMissing`; and `Derivative` of this
two-variable expression raises the generic exception — all four of the allowed outcomes occur -/
example :
    routePL realNum c17DivXY "x" [("x", 1), ("y", 0)] = .error .domain ∧
    routeLD realNum c17DivXY "x" [("x", 1), ("y", 0)] = .error .domain ∧
    routeFATL realNum c17DivXY "y" [("x", 1), ("y", 0)] = .error .domain ∧
    (∃ v, routePL realNum c17DivXY "x" [("x", 1), ("y", 2)] = .ok v) ∧
    (∃ v, routeLD realNum c17DivXY "y" [("x", 1), ("y", 2)] = .ok v) ∧
    routePL realNum c17DivXY "x" [("x", 1)] = .error .missing ∧
    routeDL realNum c17DivXY [("x", 1), ("y", 2)] = .error .usage ∧
    routeExprD realNum c17DivXY = .error .usage := by
  have hwf : WF c17DivXY := by simp [WF]
  have hs0 : Supp [("x", (1 : ℝ)), ("y", 0)] c17DivXY := by simp [Supp, Point.get?]
  have hs2 : Supp [("x", (1 : ℝ)), ("y", 2)] c17DivXY := by simp [Supp, Point.get?]
  have hnd : ¬ Dom (valOf [("x", (1 : ℝ)), ("y", 0)]) c17DivXY := by
    simp [Dom, den, valOf, Point.get?]
  have hd : Dom (valOf [("x", (1 : ℝ)), ("y", 2)]) c17DivXY := by
    simp [Dom, den, valOf, Point.get?]
  have hvars : c17DivXY.vars = ["x", "y"] := by decide
  refine ⟨(routePL_eq ..).trans (routes_fwdG_off "x" hwf hs0 hnd),
    (routes_LD_supplied "x" hwf hs0).trans (routes_fwdG_off "x" hwf hs0 hnd),
    (routes_FATL_supplied "y" hwf hs0).trans (routes_fwdG_off "y" hwf hs0 hnd),
    ⟨_, (routePL_eq ..).trans (tp_fwd_is_truePartial _ "x" _ hwf hs2 hd)⟩,
    ⟨_, (routes_LD_supplied "y" hwf hs2).trans (tp_fwd_is_truePartial _ "y" _ hwf hs2 hd)⟩, ?_, ?_, ?_⟩
  · simp [routePL_eq, fwdG, evalG, Point.get?, bind, Except.bind, pure, Except.pure, throw,
      throwThe, MonadExceptOf.throw]
  · rw [routeDL_eq]; simp [singleVarName, hvars, bind, Except.bind, throw, throwThe,
      MonadExceptOf.throw]
  · exact (derivative_usage_iff realNum c17DivXY).1.mpr (by rw [hvars]; decide)

/-- a route through the simplifier (`compute_early=True`, and after `as_expression()`), on
`Reciprocal(y)` whose simplification run is replayed in Proofs/RoutesRun.lean: `DomainError` at
`y = 0`, a number at `y = 2`; and the expression handed out is well formed -/
example :
    routePE realNum runRcExpr "y" [("y", 0)] = .error .domain ∧
    routePA realNum runRcExpr "y" [("y", 0)] = .error .domain ∧
    routeFATE realNum runRcExpr "y" [("y", 0)] = .error .domain ∧
    (∃ v, routePE realNum runRcExpr "y" [("y", 2)] = .ok v) ∧
    (∃ v, routeFATE realNum runRcExpr "y" [("y", 2)] = .ok v) ∧
    (∃ s w, routeExprP realNum runRcExpr "y" = .ok (s, w) ∧ WF s) := by
  have hwf : WF runRcExpr := by simp [WF]
  have hs0 : Supp [("y", (0 : ℝ))] runRcExpr := by simp [Supp, Point.get?]
  have hs2 : Supp [("y", (2 : ℝ))] runRcExpr := by simp [Supp, Point.get?]
  have hnd : ¬ Dom (valOf [("y", (0 : ℝ))]) runRcExpr := by simp [Dom, den, valOf, Point.get?]
  have hd : Dom (valOf [("y", (2 : ℝ))]) runRcExpr := by simp [Dom, den, valOf, Point.get?]
  obtain ⟨s, w, hret⟩ := routes_retrieve_ok "y" runRc_fuelFwd
  have h0 := routes_fwdG_off "y" hwf hs0 hnd ▸ routes_all_supplied "y" hwf hs0
    (fun hd => absurd hd hnd) runRc_fuelFwd (fun hd => absurd hd hnd) runRc_fuelRev
  have h2 := routes_all_supplied "y" hwf hs2 (fun _ => runRc_K1Fwd) runRc_fuelFwd
    (fun _ => runRc_K1Rev) runRc_fuelRev
  rw [tp_fwd_is_truePartial _ "y" _ hwf hs2 hd] at h2
  refine ⟨h0.PE, h0.PA, h0.FATE, ⟨_, h2.PE⟩, ⟨_, h2.FATE⟩, s, w, ?_, ?_⟩
  · rw [routeExprP_eq]; exact hret
  · exact retrieveSyntheticPartial_WF _ _ _ _ hret hwf

/-- K1: `NthRoot(NthPower(x, 2), 2)` (= |x|).  Its simplified partial `Divide(x, x)` is handed
out by `as_expression()`; the run that produces it uses the unsound rule `nrootPow`; the result is
well formed (`exprRoutes_WF` applies, no K1 hypothesis), although its meaning changed: at `x = -3`
the late route answers the true partial `-1`, the routes through the simplified tree answer `+1` —
a wrong number, but a number: no CPython-level error, as `routePE_error_kinds` promises -/
example :
    routeExprP realNum (mkNRoot (mkNPow (mkVar "x") 2) 2) "x" =
        .ok (mkDiv (mkVar "x") (mkVar "x"), false) ∧
      StepEvent.rule .nrootPow ∈
        (fullyReduce realNum (symFwd realNum "x" (mkNRoot (mkNPow (mkVar "x") 2) 2))).trace ∧
      WF (mkDiv (mkVar "x") (mkVar "x") : Expr ℝ) ∧
      routePL realNum (mkNRoot (mkNPow (mkVar "x") 2) 2) "x" [("x", (-3 : ℝ))] = .ok (-1) ∧
      routePE realNum (mkNRoot (mkNPow (mkVar "x") 2) 2) "x" [("x", (-3 : ℝ))] = .ok 1 := by
  have hexpr : routeExprP realNum (mkNRoot (mkNPow (mkVar "x") 2) 2 : Expr ℝ) "x" =
      .ok (mkDiv (mkVar "x") (mkVar "x"), false) :=
    (routeExprP_eq ..).trans (asExpression_late runK1_asExpression).1
  refine ⟨hexpr, ?_, ?_, runK1_routes_disagree.1, runK1_routes_disagree.2.1⟩
  · rw [runK1_symFwd]; exact runK1_run_uses_nrootPow
  · exact (exprRoutes_WF _ "x" _ false (by simp [WF])).1 hexpr

/-- the K1 rule itself, on its smallest redex: well-formedness is kept (the theorem of section 1
applies), the meaning is not (`rule_soundness_fails_at_K1` in Properties/C08.lean) -/
example :
    RuleId.nrootPow.apply realNum (mkNRoot (mkNPow (mkVar "x") 2) 2 : Expr ℝ) =
        some (mkNPow (mkNRoot (mkVar "x") 2) 2) ∧
      WF (mkNPow (mkNRoot (mkVar "x") 2) 2 : Expr ℝ) ∧
      ¬ Refines (mkNRoot (mkNPow (mkVar "x") 2) 2 : Expr ℝ) (mkNPow (mkNRoot (mkVar "x") 2) 2) :=
  ⟨rfl, rule_keeps_WF .nrootPow (mkNRoot (mkNPow (mkVar "x") 2) 2) _ rfl (by simp [WF]),
    nrootPow_unsound⟩

/-- the hypotheses of section 4 on `Reciprocal(y)`: no flag set, the replayed run of the rewriter on
the raw partial ends without the warning, and the raw partial is 4 levels deep -/
example :
    Settled realNum runRcExpr ∧
      (fullyReduce realNum (symFwd realNum "y" runRcExpr)).warned = false ∧
      wfdDepth (symFwd realNum "y" runRcExpr) ≤ 48999 ∧
      retrieveSyntheticPartial realNum runRcExpr "y" ≠ .error .fuel := by
  have h1 : Settled realNum runRcExpr := settled_fresh realNum runRcExpr
  have h2 : (fullyReduce realNum (symFwd realNum "y" runRcExpr)).warned = false := by
    rw [runRc_symFwd, fullyReduce, runRc_fullyReduce]
  have h3 : wfdDepth (symFwd realNum "y" runRcExpr) ≤ 48999 := by
    rw [runRc_symFwd]; simp [runRcE0, wfdDepth]
  exact ⟨h1, h2, h3, (retrieveSyntheticPartial_no_fuel realNum _ "y" h1 h2 h3).2⟩

/-- fuel can run out in the model when it is set absurdly low: that is all `.fuel` means -/
example : normalizeF realNum REDUCTION_STEPS_BOUND 1 (mkVar "x" : Expr ℝ) = none := by
  simp [normalizeF, normReducedF]

end Smooth
