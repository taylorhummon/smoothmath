/-
C12 (objects) — Equality, hashing and printing of the public objects
`Partial`, `Derivative`, `Differential`, `LocatedDifferential`, `Point` (and expressions among them).

`Obj α` (Model/Surface) is what `==`/`hash`/`repr` look at in each public object; `Obj.beq N` is the
model of the five `__eq__` methods ("same class and equal parts"), `Obj.hashKey` the tuple each
`__hash__` hands to Python's `hash` (`Partial` leaves the variable out; `Point` sorts its items),
`Obj.render` the token stream of `__repr__`.  `HKey.same N` is equality of such tuples up to `==` on the
numbers in them (what CPython's `hash` is trusted to respect).

Assumptions, where needed:
* `EqLaws N` : `N.eq` is an equivalence (`eqLaws_real`, `eqLaws_rational` in C12);
* `Obj.WF` : the names of every point in the object are pairwise distinct — keyword arguments /
  dictionary keys are.  It is needed exactly where a point is compared with itself or the comparison
  is turned round (a repeated name is looked up at its first occurrence only, see the last example).
-/
import Smooth.Proofs.Objects

namespace Smooth
variable {α : Type}
open Expr

/-! ### equality is an equivalence -/

theorem Obj.beq_refl {N : Num α} (h : EqLaws N) (a : Obj α) (ha : a.WF) : Obj.beq N a a = true :=
  obj_beq_refl_of h.refl a ha

/-- symmetric on well-formed objects.  (Of the two hypotheses, only `b.WF` is used when the
objects are points — the model evaluates `other._coordinates == self._coordinates` — and only `a.WF`
when they are located differentials; the other classes need neither.) -/
theorem Obj.beq_symm {N : Num α} (h : EqLaws N) {a b : Obj α} (ha : a.WF) (hb : b.WF)
    (hab : Obj.beq N a b = true) : Obj.beq N b a = true :=
  obj_beq_symm_of h.symm a b ha hb hab

/-- transitive, with no well-formedness hypothesis at all -/
theorem Obj.beq_trans {N : Num α} (h : EqLaws N) {a b c : Obj α} (hab : Obj.beq N a b = true)
    (hbc : Obj.beq N b c = true) : Obj.beq N a c = true :=
  obj_beq_trans_of h.trans hab hbc

/-! ### what equality tells apart (no assumption on `N`) -/

/-- Objects of different classes are never equal: `Partial`, `Derivative`, `Differential`,
`LocatedDifferential`, `Point` and expressions are pairwise unequal whatever they contain. -/
theorem Obj.beq_class (N : Num α) {a b : Obj α} (h : a.cls ≠ b.cls) : Obj.beq N a b = false := by
  cases hb : Obj.beq N a b
  · rfl
  · exact absurd (obj_beq_cls hb) h

theorem Obj.beq_expr_other (N : Num α) (e : Expr α) {b : Obj α} (h : b.cls ≠ .expr) :
    Obj.beq N (.expr e) b = false ∧ Obj.beq N b (.expr e) = false :=
  ⟨Obj.beq_class N (fun hc => h hc.symm), Obj.beq_class N h⟩

/-- among expressions `Obj.beq` computes to expression equality (C12): an equation between the two
Booleans, not only an equivalence -/
theorem expr_beq_iff (N : Num α) (a b : Expr α) :
    Obj.beq N (.expr a) (.expr b) = beq N a b := rfl

/-- `Point.__eq__` : `Obj.beq` on points computes to dictionary equality of `other` against `self`
(an equation between the two Booleans) -/
theorem point_beq_iff (N : Num α) (p q : Point α) :
    Obj.beq N (.point p) (.point q) = pointBeq N q p := rfl

/-- `Partial.__eq__` : equal original expressions and the same variable name -/
theorem partial_beq_iff (N : Num α) (a b : Expr α) (x y : String) :
    Obj.beq N (.partial_ a x) (.partial_ b y) = true ↔ beq N a b = true ∧ x = y := by
  simp [Obj.beq]

/-- `Derivative.__eq__` : equal original expressions -/
theorem derivative_beq_iff (N : Num α) (a b : Expr α) :
    Obj.beq N (.derivative a) (.derivative b) = true ↔ beq N a b = true := Iff.rfl

/-- `Differential.__eq__` : equal original expressions -/
theorem differential_beq_iff (N : Num α) (a b : Expr α) :
    Obj.beq N (.differential a) (.differential b) = true ↔ beq N a b = true := Iff.rfl

/-- `LocatedDifferential.__eq__` : equal original expressions and equal points -/
theorem located_beq_iff (N : Num α) (a b : Expr α) (p q : Point α) :
    Obj.beq N (.located a p) (.located b q) = true ↔ beq N a b = true ∧ pointBeq N p q = true := by
  simp [Obj.beq]

/-! ### hashing is consistent with equality -/

/-- `sorted(coordinates.items())` is a rearrangement of the items … -/
theorem sortedItems_perm (p : Point α) : (sortedItems p).Perm p := obj_sortedItems_perm p

/-- … in non-decreasing order of the names … -/
theorem sortedItems_sorted (p : Point α) : (sortedItems p).Pairwise (fun a b => a.1 ≤ b.1) :=
  obj_sortedItems_pairwise p

/-- … and, names being distinct, the only such one (so the values never take part in the sorting). -/
theorem sortedItems_unique {p l : Point α} (hp : (p.map Prod.fst).Nodup) (hl : l.Perm p)
    (hs : l.Pairwise (fun a b => a.1 ≤ b.1)) : sortedItems p = l :=
  obj_sortedItems_unique hp hl hs

/-- Equal points are hashed alike: the sorted item tuples list the same names in the same order with
`N.eq` values.  (Distinct names in the first point; those of the second follow.) -/
theorem pointHashKey_respects_pointBeq {N : Num α} {p q : Point α} (hp : (p.map Prod.fst).Nodup)
    (h : pointBeq N p q = true) : HKey.same N (pointHashKey p) (pointHashKey q) = true :=
  obj_pointHashKey_same hp h

/-- C12 (hash) for every public object.  Equal objects have equal hashes: the keys handed to
`hash` agree up to `==` on the numbers in them. -/
theorem Obj.hashKey_respects_beq {N : Num α} (h : EqLaws N) {a b : Obj α} (ha : a.WF) (hb : b.WF)
    (hab : Obj.beq N a b = true) : HKey.same N a.hashKey b.hashKey = true :=
  obj_hashKey_same_of_beq h.symm a b ha hb hab

/-- `Partial.__hash__` leaves the variable out: partials of one expression with respect to different
variables collide (they are not equal, `partial_beq_iff`) -/
theorem partial_hashKey_ignores_variable (e : Expr α) (x y : String) :
    (Obj.partial_ e x).hashKey = (Obj.partial_ e y).hashKey := rfl

/-! ### printing tells objects apart -/

/-- The printed form of an expression starts with one of the 15 expression class names followed by
`(` — never with `Partial`, `Derivative`, `Differential`, `LocatedDifferential` or `Point`. -/
theorem render_head_class (e : Expr α) :
    ∃ c t, render e = Tok.ident c :: Tok.lp :: t ∧
      c ∈ ["Constant", "Variable", "Add", "Multiply", "Minus", "Divide", "Power", "Negation",
        "Reciprocal", "Cosine", "Sine", "NthPower", "NthRoot", "Exponential", "Logarithm"] :=
  obj_render_head e

/-- `Point.__repr__` is injective (names, values and their order are all printed) -/
theorem renderPoint_injective {p q : Point α} (h : renderPoint p = renderPoint q) : p = q :=
  obj_renderPoint_inj h

/-- Printing is injective up to flags, across all classes.  Two public objects print identically
exactly when they are of the same class with the same parts, up to the (unprinted) memo flags of the
expression.  No hypothesis. -/
theorem Obj.render_eq_iff (a b : Obj α) : Obj.render a = Obj.render b ↔ a.fresh = b.fresh :=
  obj_render_eq_iff_fresh a b

theorem Obj.render_class {a b : Obj α} (h : Obj.render a = Obj.render b) : a.cls = b.cls := by
  have hf := (Obj.render_eq_iff a b).mp h
  cases a <;> cases b <;> first | rfl | (simp [Obj.fresh] at hf)

/-- Objects that print identically are `==`, when `==` is reflexive on the stored numbers (false
for a float NaN) and the names of the points of one of them are distinct. -/
theorem Obj.render_eq_imp_beq (N : Num α) (hrefl : ∀ v, N.eq v v = true) {a b : Obj α} (ha : a.WF)
    (h : Obj.render a = Obj.render b) : Obj.beq N a b = true :=
  obj_beq_of_render_eq N hrefl a b ha h

theorem Obj.unequal_print_differently (N : Num α) (hrefl : ∀ v, N.eq v v = true) {a b : Obj α}
    (ha : a.WF) (h : Obj.beq N a b = false) : Obj.render a ≠ Obj.render b := fun hr => by
  rw [Obj.render_eq_imp_beq N hrefl ha hr] at h; cases h

/-! ### non-vacuity and concrete discrimination -/

section examples
open Classical

/-- "2 and 2.0 agree" inside a `Partial`: the original expressions are spelled with distinct carrier
elements that are `==`; the partials are equal and hash alike -/
example : (⟨2, true⟩ : QE) ≠ ⟨2, false⟩ ∧
    Obj.beq qeNum (.partial_ (mkMul [mkConst ⟨2, true⟩, mkVar "x"]) "x")
      (.partial_ (mkMul [mkConst ⟨2, false⟩, mkVar "x"]) "x") = true ∧
    HKey.same qeNum (Obj.partial_ (mkMul [mkConst (⟨2, true⟩ : QE), mkVar "x"]) "x").hashKey
      (Obj.partial_ (mkMul [mkConst (⟨2, false⟩ : QE), mkVar "x"]) "x").hashKey = true := by
  have hb : Obj.beq qeNum (.partial_ (mkMul [mkConst ⟨2, true⟩, mkVar "x"]) "x")
      (.partial_ (mkMul [mkConst ⟨2, false⟩, mkVar "x"]) "x") = true := by
    simp [Obj.beq, beq, beqList, qeNum_eq]
  exact ⟨by simp, hb, Obj.hashKey_respects_beq qeNum_eqLaws trivial trivial hb⟩

/-- two partials of the same expression with respect to different variables: unequal, same hash key -/
example :
    Obj.beq realNum (.partial_ (mkMul [mkVar "x", mkVar "y"]) "x")
      (.partial_ (mkMul [mkVar "x", mkVar "y"]) "y") = false ∧
    (Obj.partial_ (mkMul [mkVar "x", mkVar "y"] : Expr ℝ) "x").hashKey
      = (Obj.partial_ (mkMul [mkVar "x", mkVar "y"]) "y").hashKey :=
  ⟨by simp [Obj.beq], rfl⟩

/-- points given in different orders: both well-formed, equal, and hashed alike — the sorted item
tuple is literally the same -/
example :
    (Obj.point ([("x", 1), ("y", 2)] : Point ℝ)).WF ∧ (Obj.point ([("y", 2), ("x", 1)] : Point ℝ)).WF ∧
    Obj.beq realNum (.point [("x", 1), ("y", 2)]) (.point [("y", 2), ("x", 1)]) = true ∧
    HKey.same realNum (Obj.point ([("x", 1), ("y", 2)] : Point ℝ)).hashKey
      (Obj.point ([("y", 2), ("x", 1)] : Point ℝ)).hashKey = true ∧
    sortedItems ([("y", 2), ("x", 1)] : Point ℝ) = [("x", 1), ("y", 2)] := by
  have h1 : (Obj.point ([("x", 1), ("y", 2)] : Point ℝ)).WF := by simp [Obj.WF]
  have h2 : (Obj.point ([("y", 2), ("x", 1)] : Point ℝ)).WF := by simp [Obj.WF]
  have hb : Obj.beq realNum (.point [("x", 1), ("y", 2)]) (.point [("y", 2), ("x", 1)]) = true :=
    pointBeq_of_perm realNum_eqLaws.refl h2 (List.Perm.swap _ _ _)
  refine ⟨h1, h2, hb, Obj.hashKey_respects_beq realNum_eqLaws h1 h2 hb, ?_⟩
  exact sortedItems_unique h2 (List.Perm.swap _ _ _) (by simp)

/-- located differentials: numerically equal values at the point, spelled differently, in a different
order: equal and hashed alike; a different value is told apart -/
example :
    Obj.beq realNum (.located (mkSin (mkVar "x")) [("x", 1), ("y", 2)])
      (.located (mkSin (mkVar "x")) [("y", 1 + 1), ("x", 1)]) = true ∧
    HKey.same realNum (Obj.located (mkSin (mkVar "x")) ([("x", 1), ("y", 2)] : Point ℝ)).hashKey
      (Obj.located (mkSin (mkVar "x")) ([("y", 1 + 1), ("x", 1)] : Point ℝ)).hashKey = true ∧
    Obj.beq realNum (.located (mkSin (mkVar "x")) [("x", 1), ("y", 2)])
      (.located (mkSin (mkVar "x")) [("x", 1), ("y", 3)]) = false := by
  have h2 : (1 : ℝ) + 1 = 2 := by norm_num
  have hb : Obj.beq realNum (.located (mkSin (mkVar "x")) [("x", 1), ("y", 2)])
      (.located (mkSin (mkVar "x")) [("y", 1 + 1), ("x", 1)]) = true := by
    simp [Obj.beq, beq, pointBeq, Point.get?, h2]
  refine ⟨hb, Obj.hashKey_respects_beq realNum_eqLaws (by simp [Obj.WF]) (by simp [Obj.WF]) hb, ?_⟩
  simp [Obj.beq, beq, pointBeq, Point.get?]

/-- the classes are told apart whatever the content: a `Derivative` and a `Differential` of the same
expression, and the expression itself, are pairwise unequal and print differently -/
example :
    Obj.beq realNum (.derivative (mkVar "x")) (.differential (mkVar "x")) = false ∧
    Obj.beq realNum (.expr (mkVar "x")) (.derivative (mkVar "x")) = false ∧
    Obj.beq realNum (.differential (mkVar "x")) (.expr (mkVar "x")) = false ∧
    Obj.render (.derivative (mkVar "x" : Expr ℝ)) ≠ Obj.render (.differential (mkVar "x")) :=
  ⟨Obj.beq_class _ (by simp [Obj.cls]), Obj.beq_class _ (by simp [Obj.cls]),
    Obj.beq_class _ (by simp [Obj.cls]),
    Obj.unequal_print_differently realNum (by simp) trivial (Obj.beq_class _ (by simp [Obj.cls]))⟩

/-- `Obj.render_eq_iff` / `Obj.render_eq_imp_beq` relate objects that are not literally the same: the
flags of the expressions differ -/
example :
    Obj.located (.var { failed := true } "x") ([("x", 1)] : Point ℝ) ≠ .located (mkVar "x") [("x", 1)] ∧
    Obj.render (.located (.var { failed := true } "x") ([("x", 1)] : Point ℝ))
      = Obj.render (.located (mkVar "x") [("x", 1)]) ∧
    Obj.beq realNum (.located (.var { failed := true } "x") [("x", 1)])
      (.located (mkVar "x") [("x", 1)]) = true := by
  have hr : Obj.render (.located (.var { failed := true } "x") ([("x", 1)] : Point ℝ))
      = Obj.render (.located (mkVar "x") [("x", 1)]) :=
    (Obj.render_eq_iff _ _).mpr (by simp [Obj.fresh, Expr.fresh, mkVar])
  exact ⟨by simp [mkVar], hr, Obj.render_eq_imp_beq realNum (by simp) (by simp [Obj.WF]) hr⟩

/-- the printed form of a `LocatedDifferential` -/
example : Obj.render (.located (mkVar "x") ([("x", 1), ("y", 2)] : Point ℝ)) =
    [.ident "LocatedDifferential", .lp, .ident "Variable", .lp, .str "x", .rp, .comma,
      .ident "Point", .lp, .ident "x", .eqs, .num 1, .comma, .ident "y", .eqs, .num 2, .rp, .rp] := by
  simp [Obj.render, renderLocated, renderPoint, render, joinComma]

/-- well-formedness is needed for reflexivity: a point with a repeated name is not equal to itself,
although it prints like itself -/
example : ¬ (Obj.point ([("x", 1), ("x", 2)] : Point ℝ)).WF ∧
    Obj.beq realNum (.point [("x", 1), ("x", 2)]) (.point [("x", 1), ("x", 2)]) = false := by
  constructor
  · simp [Obj.WF]
  · simp [Obj.beq, pointBeq, Point.get?]

end examples

end Smooth
