/-
C08odd — simplification is value-preserving, unconditionally, on expressions without even roots.

The only unsound rewrite of the library (recorded defect K1) is
`NthRoot(NthPower(u, m), n) ⇒ NthPower(NthRoot(u, n), m)` with `n` and `m` even.  The soundness theorems
of C08 and C05 (`step_sound_partial`, `fully_reduce_sound_partial`, `normalize_sound_partial`,
`as_expression_sound_partial`, `differential_early_*`) therefore carry a hypothesis about the run of the
rewriter (`StepOK / RunOK / NormOK K1FreeAt …` : "the run never applies that instance").

Here that hypothesis is replaced by a syntactic condition on the input:

  `NoEvenRoot e`  :=  every `NthRoot` node of `e`, at any depth, has an odd degree
                      (`∀ f u n, Sub (.nroot f u n) e → n % 2 = 1`, `Sub s e` = "`s` is a node of `e`").

All expressions without `NthRoot` nodes qualify (polynomials, rational functions, exp/log/trig/power
expressions), and so do expressions whose roots are all odd.  The condition is kept by every one of
the 46 rules, by constant folding and flagging, by every step, by `_fully_reduce` (any budget), by the
normal-form pass and `_normalize` (any budget and fuel), and by symbolic differentiation (forward and
reverse); and a redex without even root is never an instance of K1.  Hence, for such inputs, the
side conditions hold of every run and the soundness theorems become unconditional.
The condition is sufficient, not necessary (last section).

`Refines e e'` := `WF e → WF e'`, every point supplying `e` supplies `e'`, and wherever `e` is defined
`e'` is defined with the same value (Proofs/Refines).  The invariance theorems are generic in the
number record `N`.
-/
import Smooth.Proofs.NoEvenRootOK
import Smooth.Proofs.SymForwardRun

namespace Smooth
open Expr

theorem noEvenRoot_iff {α : Type} (e : Expr α) :
    NoEvenRoot e ↔ OddRootAt e ∧ ∀ c ∈ children e, NoEvenRoot c :=
  ner_iff e

/-- the one constructor that matters -/
theorem noEvenRoot_nroot {α : Type} (f : Flags) (u : Expr α) (n : Nat) :
    NoEvenRoot (.nroot f u n) ↔ n % 2 = 1 ∧ NoEvenRoot u :=
  ner_nroot f u n

/-- every other constructor only passes the condition on to its operands (the remaining cases are
the simp lemmas `ner_const … ner_sin` of Proofs/NoEvenRoot) -/
theorem noEvenRoot_other {α : Type} (f : Flags) (u l r : Expr α) (as : List (Expr α)) (n : Nat)
    (b v : α) (x : String) :
    NoEvenRoot (.const f v) ∧ NoEvenRoot (.var f x : Expr α) ∧
      (NoEvenRoot (.add f as) ↔ ∀ a ∈ as, NoEvenRoot a) ∧
      (NoEvenRoot (.mul f as) ↔ ∀ a ∈ as, NoEvenRoot a) ∧
      (NoEvenRoot (.minus f l r) ↔ NoEvenRoot l ∧ NoEvenRoot r) ∧
      (NoEvenRoot (.div f l r) ↔ NoEvenRoot l ∧ NoEvenRoot r) ∧
      (NoEvenRoot (.pow f l r) ↔ NoEvenRoot l ∧ NoEvenRoot r) ∧
      (NoEvenRoot (.neg f u) ↔ NoEvenRoot u) ∧ (NoEvenRoot (.recip f u) ↔ NoEvenRoot u) ∧
      (NoEvenRoot (.npow f u n) ↔ NoEvenRoot u) ∧ (NoEvenRoot (.exp f u b) ↔ NoEvenRoot u) ∧
      (NoEvenRoot (.log f u b) ↔ NoEvenRoot u) ∧ (NoEvenRoot (.cos f u) ↔ NoEvenRoot u) ∧
      (NoEvenRoot (.sin f u) ↔ NoEvenRoot u) :=
  ⟨ner_const f v, ner_var f x, ner_add f as, ner_mul f as, ner_minus f l r, ner_div f l r,
    ner_pow f l r, ner_neg f u, ner_recip f u, ner_npow f u n, ner_exp f u b, ner_log f u b,
    ner_cos f u, ner_sin f u⟩

/-- an expression without any `NthRoot` node qualifies -/
theorem noEvenRoot_of_no_nroot {α : Type} (e : Expr α) (h : ∀ f u n, ¬ Sub (.nroot f u n) e) :
    NoEvenRoot e :=
  fun f u n hs => absurd hs (h f u n)

/-- the memo flags do not matter -/
theorem noEvenRoot_flags {α : Type} (g : Flags) (e : Expr α) :
    (NoEvenRoot (e.setFlags g) ↔ NoEvenRoot e) ∧ (NoEvenRoot e.fresh ↔ NoEvenRoot e) :=
  ⟨ner_setFlags g e, ner_fresh e⟩

/-! ## the condition is an invariant (every number instance) -/

/-- every one of the 46 rewrite rules keeps it (the rules that create `NthRoot` nodes: `nrootPow`
and `mulNRoots` keep the degree, `nrootNeg`/`nrootRecip` too, `nrootRoot` multiplies two odd degrees,
`npowRoot` divides an odd degree by a gcd) -/
theorem rule_keeps_noEvenRoot {α : Type} (N : Num α) (r : RuleId) (e e' : Expr α)
    (h : r.apply N e = some e') (hs : NoEvenRoot e) : NoEvenRoot e' :=
  ner_rule N r h hs

/-- one step of `_take_reduction_step` (rule, constant fold, child step or flag) -/
theorem step_keeps_noEvenRoot {α : Type} (N : Num α) (e : Expr α) (hs : NoEvenRoot e) :
    NoEvenRoot (stepF N e).1 :=
  ner_stepF N e hs

/-- `_fully_reduce`, every budget (exhaustion included) -/
theorem fully_reduce_keeps_noEvenRoot {α : Type} (N : Num α) (bound : Nat) (e : Expr α)
    (hs : NoEvenRoot e) : NoEvenRoot (fullyReduceWith N bound e).expr :=
  ner_fullyReduceWith N bound hs

/-- the normal-form pass, every budget and fuel -/
theorem norm_reduced_keeps_noEvenRoot {α : Type} (N : Num α) (bound fuel : Nat) (e e' : Expr α)
    (w : Bool) (hs : NoEvenRoot e) (h : normReducedF N bound fuel e = some (e', w)) :
    NoEvenRoot e' :=
  ner_normReducedF N bound fuel hs h

/-- `_normalize`, every budget and fuel -/
theorem normalize_keeps_noEvenRoot {α : Type} (N : Num α) (bound fuel : Nat) (e e' : Expr α)
    (w : Bool) (hs : NoEvenRoot e) (h : normalizeF N bound fuel e = some (e', w)) : NoEvenRoot e' :=
  ner_normalizeF N bound fuel hs h

/-- forward symbolic mode `_synthetic_partial` (the formula of `NthRoot` re-uses the node itself inside
an `NthPower`: same degree) -/
theorem symbolic_partial_keeps_noEvenRoot {α : Type} (N : Num α) (x : String) (e : Expr α)
    (hs : NoEvenRoot e) : NoEvenRoot (symFwd N x e) :=
  ner_symFwd N x e hs

/-- reverse symbolic mode: one traversal `_compute_synthetic_partials` keeps every accumulated
expression free of even roots -/
theorem reverse_symbolic_traversal_keeps_noEvenRoot {α : Type} (N : Num α) (e m : Expr α)
    (acc : SAcc α) (hs : NoEvenRoot e) (hm : NoEvenRoot m)
    (ha : ∀ y s, SAcc.get? acc y = some s → NoEvenRoot s) :
    ∀ y s, SAcc.get? (symRev N e m acc) y = some s → NoEvenRoot s :=
  NerA_symRev N e m acc hs hm ha

/-- hence so is every entry of `_synthetic_partials()` -/
theorem synthetic_partials_keep_noEvenRoot {α : Type} (N : Num α) (e : Expr α) (hs : NoEvenRoot e)
    (y : String) (s : Expr α) (hget : SAcc.get? (syntheticPartials N e) y = some s) :
    NoEvenRoot s :=
  ner_syntheticPartials N hs hget

/-! ## the K1 side conditions hold of every run -/

/-- a redex without even root is not an instance of K1 (whatever the rule) -/
theorem k1FreeAt_of_noEvenRoot (r : RuleId) (e : Expr ℝ) (hs : NoEvenRoot e) : K1FreeAt r e :=
  ner_k1FreeAt r hs

/-- the redex of a step is free of even roots when the stepped expression is -/
theorem step_redex_noEvenRoot (e : Expr ℝ) (hs : NoEvenRoot e) (r : RuleId) (e₀ : Expr ℝ)
    (h : stepRedex e = some (r, e₀)) : NoEvenRoot e₀ :=
  ner_stepRedex e hs r e₀ h

theorem stepOK_of_noEvenRoot (e : Expr ℝ) (hs : NoEvenRoot e) : StepOK K1FreeAt e :=
  ner_stepOK hs

theorem runOK_of_noEvenRoot (bound : Nat) (e : Expr ℝ) (hs : NoEvenRoot e) :
    RunOK K1FreeAt bound e :=
  ner_runOK bound hs

theorem normOK_of_noEvenRoot (bound fuel : Nat) (e : Expr ℝ) (hs : NoEvenRoot e) :
    NormOK K1FreeAt bound fuel e :=
  ner_normOK bound fuel hs

theorem normRedOK_of_noEvenRoot (bound fuel : Nat) (e : Expr ℝ) (hs : NoEvenRoot e) :
    NormRedOK K1FreeAt bound fuel e :=
  ner_normRedOK bound fuel hs

/-! ## C08 without side condition -/

/-- every rule application to a redex without even root refines it -/
theorem rule_sound_of_noEvenRoot (r : RuleId) (e e' : Expr ℝ) (h : r.apply realNum e = some e')
    (hs : NoEvenRoot e) : Refines e e' :=
  ner_rule_refines r h hs

/-- C08, one step, unconditional for inputs without even roots -/
theorem step_sound_of_noEvenRoot (e : Expr ℝ) (hs : NoEvenRoot e) :
    Refines e (stepF realNum e).1 :=
  ner_step_refines hs

/-- C08, `_fully_reduce`, every budget (the give-up fallback included) -/
theorem fully_reduce_sound_of_noEvenRoot (bound : Nat) (e : Expr ℝ) (hs : NoEvenRoot e) :
    Refines e (fullyReduceWith realNum bound e).expr :=
  ner_fullyReduce_refines bound hs

/-- C08, the normal-form pass -/
theorem norm_reduced_sound_of_noEvenRoot (bound fuel : Nat) (e e' : Expr ℝ) (w : Bool)
    (hs : NoEvenRoot e) (h : normReducedF realNum bound fuel e = some (e', w)) : Refines e e' :=
  ner_normReduced_refines bound fuel hs h

/-- C08, `_normalize`, every budget and fuel -/
theorem normalize_sound_of_noEvenRoot (bound fuel : Nat) (e e' : Expr ℝ) (w : Bool)
    (hs : NoEvenRoot e) (h : normalizeF realNum bound fuel e = some (e', w)) : Refines e e' :=
  ner_normalize_refines bound fuel hs h

/-- read on the evaluator: a value of the input is a value of the simplified expression -/
theorem normalize_keeps_value_of_noEvenRoot (bound fuel : Nat) (e e' : Expr ℝ) (w : Bool)
    (hs : NoEvenRoot e) (h : normalizeF realNum bound fuel e = some (e', w)) (hwf : WF e)
    (p : Point ℝ) (v : ℝ) (hv : evalG realNum p e = .ok v) : evalG realNum p e' = .ok v :=
  (ner_normalize_refines bound fuel hs h).eval hwf p v hv

/-! ## C05 without side condition -/

/-- C05, `Partial.as_expression()` for an original without even roots: everything
`as_expression_sound_partial` states, with no hypothesis about the run — and the returned expression
is again free of even roots, so the statement applies to it once more (second order). -/
theorem as_expression_sound_of_noEvenRoot (e : Expr ℝ) (x : String) (hwf : WF e)
    (hner : NoEvenRoot e) (s : Expr ℝ) (P' : PartialObj ℝ) (w : Bool)
    (h : (PartialObj.mk e x none).asExpression realNum = .ok (s, P', w)) :
    Refines (symFwd realNum x e) s ∧ P' = ⟨e, x, some s⟩ ∧
      WF s ∧ (∀ y, y ∈ s.vars → y ∈ e.vars) ∧ (∀ p : Point ℝ, Supp p e → Supp p s) ∧
      (∀ ρ : String → ℝ, Dom ρ e →
        Dom ρ s ∧ HasDerivAt (fun t => den (upd ρ x t) e) (den ρ s) (ρ x)) ∧
      (∀ p : Point ℝ, Supp p e → Dom (valOf p) e → evalG realNum p s = fwdG realNum p x e) ∧
      NoEvenRoot s :=
  ner_asExpression_sound hwf hner h

/-- `Partial(e, x, compute_early=True)` stores the same normalised expression -/
theorem partial_early_sound_of_noEvenRoot (e : Expr ℝ) (x : String) (hwf : WF e)
    (hner : NoEvenRoot e) (P : PartialObj ℝ) (w : Bool)
    (h : PartialObj.new realNum e x true = .ok (P, w)) :
    ∃ s, P = ⟨e, x, some s⟩ ∧ Refines (symFwd realNum x e) s ∧ WF s ∧ NoEvenRoot s ∧
      (∀ ρ : String → ℝ, Dom ρ e →
        Dom ρ s ∧ HasDerivAt (fun t => den (upd ρ x t) e) (den ρ s) (ρ x)) :=
  ner_partialNew_early_sound hwf hner h

/-- C05, `Derivative.as_expression()` -/
theorem derivative_as_expression_sound_of_noEvenRoot (D : DerivativeObj ℝ) (e : Expr ℝ) (x : String)
    (hD : D.partial_ = ⟨e, x, none⟩) (hwf : WF e) (hner : NoEvenRoot e)
    (s : Expr ℝ) (D' : DerivativeObj ℝ) (w : Bool) (h : D.asExpression realNum = .ok (s, D', w)) :
    Refines (symFwd realNum x e) s ∧ D'.partial_ = ⟨e, x, some s⟩ ∧
      WF s ∧ (∀ y, y ∈ s.vars → y ∈ e.vars) ∧ (∀ p : Point ℝ, Supp p e → Supp p s) ∧
      (∀ ρ : String → ℝ, Dom ρ e →
        Dom ρ s ∧ HasDerivAt (fun t => den (upd ρ x t) e) (den ρ s) (ρ x)) ∧
      (∀ p : Point ℝ, Supp p e → Dom (valOf p) e → evalG realNum p s = fwdG realNum p x e) ∧
      NoEvenRoot s :=
  ner_asExpression_sound hwf hner (derivativeAsExpression_late hD h)

/-- C05, reverse route: `Differential(e, compute_early=True)` for an original without even roots, with no
hypothesis about the runs: the object stores `normalizeAll` of `_synthetic_partials()`; there is no
entry for a name that is not a variable of `e`; for every variable the stored component refines the raw
reverse-mode one and is again well formed and free of even roots; and at every supplied point of the
domain of `e` every stored component evaluates to the forward-mode partial (C03: the true partial
derivative), which is also what `component_at` answers for every name. -/
theorem differential_early_sound_of_noEvenRoot (e : Expr ℝ) (hwf : WF e) (hner : NoEvenRoot e)
    (D : DifferentialObj ℝ) (w : Bool) (hnew : DifferentialObj.new realNum e true = .ok (D, w)) :
    ∃ d, D = ⟨e, some d⟩ ∧ normalizeAll realNum (syntheticPartials realNum e) = .ok (d, w) ∧
      (∀ y, y ∉ e.vars → SAcc.get? d y = none) ∧
      (∀ y ∈ e.vars, ∃ s s', SAcc.get? (syntheticPartials realNum e) y = some s ∧
        SAcc.get? d y = some s' ∧ Refines s s' ∧ WF s' ∧ NoEvenRoot s') ∧
      (∀ p : Point ℝ, Supp p e → Dom (valOf p) e →
        (∀ y s', SAcc.get? d y = some s' → evalG realNum p s' = fwdG realNum p y e) ∧
        ∀ y, D.componentAt realNum y p = fwdG realNum p y e) :=
  ner_differential_early_sound hwf hner hnew

/-- the side condition `hok` of `differential_early_refines / _value / _component_at` (C05) holds -/
theorem differential_early_hok_of_noEvenRoot (e : Expr ℝ) (hner : NoEvenRoot e) : ∀ y s,
    SAcc.get? (syntheticPartials realNum e) y = some s →
      NormOK K1FreeAt REDUCTION_STEPS_BOUND NORMALIZE_FUEL s :=
  ner_syntheticPartials_normOK hner

/-- the class is large: a rational function of exponentials, logarithms, trigonometric functions,
general and integer powers — and odd roots, also of even powers, also nested -/
example :
    NoEvenRoot (mkDiv (mkAdd [mkNPow (mkVar "x") 2, mkSin (mkVar "y"), mkConst (3 : ℝ)])
        (mkMul [mkExp (mkVar "x") 2, mkLog (mkPow (mkVar "x") (mkVar "y")) 10,
          mkNRoot (mkNRoot (mkNPow (mkMinus (mkVar "x") (mkConst 1)) 2) 3) 5])) := by
  simp

/-- the rules that build `NthRoot` nodes do fire on such inputs, and keep the degrees odd -/
example : ruleNRootRoot (mkNRoot (mkNRoot (mkVar "x") 3) 5 : Expr ℝ) = some (mkNRoot (mkVar "x") 15) ∧
    ruleNPowRoot (mkNPow (mkNRoot (mkVar "x") 9) 6 : Expr ℝ) = some (mkNPow (mkNRoot (mkVar "x") 3) 2) ∧
    ruleMulNRoots (mkMul [mkNRoot (mkVar "x") 3, mkVar "z", mkNRoot (mkVar "y") 3] : Expr ℝ) =
      some (mkMul [mkVar "z", mkNRoot (mkMul [mkVar "x", mkVar "y"]) 3]) :=
  ⟨rfl, rfl, rfl⟩

/-- the rule of K1 itself fires, legitimately: on `NthRoot(NthPower(x, 2), 3)` with flagged
children the redex of the step is the node itself, the rule is `nrootPow`, the input has no even
root, and (by `step_sound_of_noEvenRoot`) the result `NthPower(NthRoot(x, 3), 2)` refines it -/
example :
    let e : Expr ℝ := .nroot {} (.npow { red := true } (.var { red := true } "x") 2) 3
    NoEvenRoot e ∧ stepRedex e = some (.nrootPow, e) ∧
      stepF realNum e = (mkNPow (mkNRoot (.var { red := true } "x") 3) 2, .rule .nrootPow) ∧
      Refines e (mkNPow (mkNRoot (.var { red := true } "x") 3) 2) := by
  intro e
  have hner : NoEvenRoot e := by simp [e]
  have hstep : stepF realNum e =
      (mkNPow (mkNRoot (.var { red := true } "x") 3) 2, .rule .nrootPow) := by
    simp [e, stepF, stepNode, stepTop, isRed, Expr.flags, foldAttempt, vars, varsAux, reducers,
      firstRule, RuleId.apply, ruleNRootOne, ruleNRootPow]
  refine ⟨hner, ?_, hstep, ?_⟩
  · simp [e, stepRedex, nodeRedex, isRed, Expr.flags, foldAttempt, vars, varsAux, reducers,
      firstRule, RuleId.apply, ruleNRootOne, ruleNRootPow]
  · have := step_sound_of_noEvenRoot e hner
    rwa [hstep] at this

/-- the hypotheses of `normalize_sound_of_noEvenRoot` are satisfiable with the library's own budget
and fuel: `NthRoot(NthPower(x, 2), 3)._normalize()` runs five steps (one of them the rule `nrootPow`)
without warning and returns `NthPower(NthRoot(x, 3), 2)` -/
example :
    let e : Expr ℝ := mkNRoot (mkNPow (mkVar "x") 2) 3
    NoEvenRoot e ∧ WF e ∧
      normalize realNum e = some (mkNPow (mkNRoot (mkVar "x") 3) 2, false) ∧
      StepEvent.rule .nrootPow ∈ (fullyReduce realNum e).trace :=
  ⟨by simp, by simp [WF], by rfl, by decide⟩

/-- the hypotheses of `as_expression_sound_of_noEvenRoot` are satisfiable:
`Partial(x * sin x, "x").as_expression()` over the reals (run replayed in Proofs/SymForwardRun) -/
example :
    let e : Expr ℝ := mkMul [mkVar "x", mkSin (mkVar "x")]
    let s : Expr ℝ := mkAdd [mkSin (mkVar "x"), mkMul [mkCos (mkVar "x"), mkVar "x"]]
    WF e ∧ NoEvenRoot e ∧
      (PartialObj.mk e "x" none).asExpression realNum = .ok (s, ⟨e, "x", some s⟩, false) :=
  ⟨by simp [WF, WFList], by simp, runXsin_asExpression⟩

/-- the hypotheses of `differential_early_sound_of_noEvenRoot` are satisfiable:
`Differential(x · y, compute_early=True)` (run replayed in Proofs/SymReverse) -/
example :
    let e : Expr ℝ := mkMul [mkVar "x", mkVar "y"]
    WF e ∧ NoEvenRoot e ∧
      DifferentialObj.new realNum e true = .ok (⟨e, some [("x", mkVar "y"), ("y", mkVar "x")]⟩, false) ∧
      Supp [("y", 2), ("x", 3)] e ∧ Dom (valOf [("y", 2), ("x", 3)]) e :=
  ⟨by simp [WF, WFList], by simp, symrevEx_differential "x" "y" (by decide),
    by simp [Supp, SuppList, Point.get?], by simp [Dom, DomList]⟩

/-- symbolic differentiation of an odd root does build a new `NthRoot`-containing expression (the node
itself inside an `NthPower`), of the same odd degree -/
example : symFwd realNum "x" (mkNRoot (mkVar "x") 3 : Expr ℝ) =
      mkDiv (mkConst 1) (mkMul [mkConst 3, mkNPow (mkNRoot (mkVar "x") 3) 2]) ∧
    NoEvenRoot (symFwd realNum "x" (mkNRoot (mkVar "x") 3 : Expr ℝ)) :=
  ⟨by simp [symFwd, unarySymFormula], ner_symFwd _ _ _ (by simp)⟩

/-! ## the condition is sufficient, not necessary -/

/-- an even root of an odd power is not a K1 redex: `nrootPow` fires on `NthRoot(NthPower(x, 3), 2)`,
the K1 side condition holds and the rewrite is sound — but the syntactic condition excludes it -/
example :
    let e : Expr ℝ := mkNRoot (mkNPow (mkVar "x") 3) 2
    RuleId.nrootPow.apply realNum e = some (mkNPow (mkNRoot (mkVar "x") 2) 3) ∧
      K1FreeAt .nrootPow e ∧ Refines e (mkNPow (mkNRoot (mkVar "x") 2) 3) ∧ ¬ NoEvenRoot e := by
  intro e
  have hk : K1FreeAt .nrootPow e := by simp [e, K1FreeAt, K1Free]
  exact ⟨rfl, hk, rule_refines _ _ _ rfl hk, by simp [e]⟩

/-- an even root outside any K1 redex: for `NthRoot(x, 2)` the K1 side condition holds of the whole
`_normalize` run, for every budget and fuel (so `normalize_sound_partial` of C08 applies), although
`NoEvenRoot` fails -/
theorem even_root_outside_K1 :
    ¬ NoEvenRoot (mkNRoot (mkVar "x") 2 : Expr ℝ) ∧
      ∀ bound fuel, NormOK K1FreeAt bound fuel (mkNRoot (mkVar "x") 2 : Expr ℝ) :=
  ⟨nerExSqrt_not_ner, fun bound fuel => nerExSqrt_normOK bound fuel⟩

/-- on the K1 witness itself (`NthRoot(NthPower(x, 2), 2)`, where the rewrite is unsound) the
syntactic condition fails, as it must -/
example : ¬ NoEvenRoot (mkNRoot (mkNPow (mkVar "x") 2) 2 : Expr ℝ) := by simp

end Smooth
