/-
C14 — An expression needs exactly the coordinates of the variables it mentions.

`Supp p e` : the point has a coordinate for every variable occurring in `e`
(`supp_iff_vars` : iff for every name in the model's variable list `e.vars`; `mem_vars` : that
list contains exactly the occurring variables).  Extra coordinates are irrelevant
(`evalG_congr_occurs`, …, generic in the number instance: Proofs/Coords.lean).
-/
import Smooth.Proofs.Reverse
import Smooth.Proofs.Coords
import Smooth.Model.Objects
import Smooth.Proofs.NoMissingInst
import Smooth.Proofs.Base

namespace Smooth
open Expr

/-- C14.  At a point that supplies every occurring variable, evaluation never answers
`CoordinateMissing` … -/
theorem eval_supplied_no_missing (p : Point ℝ) (e : Expr ℝ) (hwf : WF e) (hs : Supp p e) :
    evalG realNum p e ≠ .error .missing :=
  fun h => (evalR_good p e hwf).missing_not_supp h hs

/-- … nor does forward mode, whatever the differentiation variable (occurring or not, supplied by
the point or not) … -/
theorem fwd_supplied_no_missing (p : Point ℝ) (x : String) (e : Expr ℝ) (hwf : WF e)
    (hs : Supp p e) : fwdG realNum p x e ≠ .error .missing :=
  fwdG_nm noMissing_realNum p x e hs

/-- … nor reverse mode. -/
theorem rev_supplied_no_missing (p : Point ℝ) (e : Expr ℝ) (hwf : WF e) (hs : Supp p e) (m : ℝ)
    (acc : Acc ℝ) : revG realNum p e m acc ≠ .error .missing :=
  revG_nm noMissing_realNum p e hs m acc

/-- Evaluation at a point lacking an occurring variable never returns a number. -/
theorem eval_lacking_never_ok (p : Point ℝ) (e : Expr ℝ) (hwf : WF e) (x : String)
    (hx : Occurs x e) (hp : p.get? x = none) (v : ℝ) : evalG realNum p e ≠ .ok v :=
  evalG_not_ok_of_lacking realNum p e x hx hp v

/-- whatever other coordinates the point has or lacks: only occurring variables are read -/
theorem eval_extra_coordinates (p q : Point ℝ) (e : Expr ℝ)
    (h : ∀ x, Occurs x e → p.get? x = q.get? x) : evalG realNum p e = evalG realNum q e :=
  evalG_congr_occurs realNum e h

theorem fwd_extra_coordinates (p q : Point ℝ) (x : String) (e : Expr ℝ)
    (h : ∀ y, Occurs y e → p.get? y = q.get? y) : fwdG realNum p x e = fwdG realNum q x e :=
  fwdG_congr_occurs realNum x e h

/-- reverse mode, and the whole gradient, read only occurring coordinates as well -/
theorem rev_extra_coordinates (p q : Point ℝ) (e : Expr ℝ)
    (h : ∀ y, Occurs y e → p.get? y = q.get? y) (m : ℝ) (acc : Acc ℝ) :
    revG realNum p e m acc = revG realNum q e m acc :=
  revG_congr_occurs realNum e h m acc

theorem numericPartials_extra_coordinates (p q : Point ℝ) (e : Expr ℝ)
    (h : ∀ y, Occurs y e → p.get? y = q.get? y) :
    numericPartials realNum p e = numericPartials realNum q e :=
  numericPartials_congr_occurs realNum e h

/-- the gradient at a supplied point never answers `CoordinateMissing` -/
theorem numericPartials_supplied_no_missing (p : Point ℝ) (e : Expr ℝ) (hs : Supp p e) :
    numericPartials realNum p e ≠ .error .missing :=
  numericPartials_nm noMissing_realNum p e hs

/-- `CoordinateMissing` from evaluation names a real gap: some occurring variable has no
coordinate (so the error is never raised "for" a variable that does not occur) -/
theorem eval_missing_lacks (p : Point ℝ) (e : Expr ℝ) (h : evalG realNum p e = .error .missing) :
    ∃ x, Occurs x e ∧ p.get? x = none :=
  evalG_missing_lacks noMissing_realNum p e h

/-- The same statements for every number instance whose own primitives never answer `missing`
(`NoMissing N`; the instances the driver runs meet it: Proofs/NoMissingInst); none of them needs
well-formedness. -/
theorem generic_coordinates {α : Type} (N : Num α) (hN : NoMissing N) (p : Point α) (e : Expr α) :
    (Supp p e → evalG N p e ≠ .error .missing) ∧
    (Supp p e → ∀ x, fwdG N p x e ≠ .error .missing) ∧
    (Supp p e → ∀ m acc, revG N p e m acc ≠ .error .missing) ∧
    (Supp p e → numericPartials N p e ≠ .error .missing) ∧
    (∀ x, Occurs x e → p.get? x = none → ∀ v, evalG N p e ≠ .ok v) ∧
    (∀ q : Point α, (∀ y, Occurs y e → p.get? y = q.get? y) →
      evalG N p e = evalG N q e ∧ (∀ x, fwdG N p x e = fwdG N q x e) ∧
      (∀ m acc, revG N p e m acc = revG N q e m acc) ∧
      numericPartials N p e = numericPartials N q e) :=
  ⟨evalG_nm hN p e, fun hs x => fwdG_nm hN p x e hs,
   fun hs m acc => revG_nm hN p e hs m acc, numericPartials_nm hN p e,
   fun x hx hp v => evalG_not_ok_of_lacking N p e x hx hp v,
   fun _ h => ⟨evalG_congr_occurs N e h, fun x => fwdG_congr_occurs N x e h,
     fun m acc => revG_congr_occurs N e h m acc, numericPartials_congr_occurs N e h⟩⟩

/-- … instantiated: the exact-rational instance and the double-with-error-bound instance (every
comparison mode) that the correspondence driver executes satisfy all of `generic_coordinates`. -/
theorem driver_instances_coordinates :
    (∀ (p : Point QE) (e : Expr QE), Supp p e → evalG qeNum p e ≠ .error .missing ∧
      (∀ x, fwdG qeNum p x e ≠ .error .missing) ∧ numericPartials qeNum p e ≠ .error .missing) ∧
    (∀ (mode : Nat) (p : Point FB) (e : Expr FB), Supp p e →
      evalG (fbNum mode) p e ≠ .error .missing ∧
      (∀ x, fwdG (fbNum mode) p x e ≠ .error .missing) ∧
      numericPartials (fbNum mode) p e ≠ .error .missing) :=
  ⟨fun p e hs =>
      let g := generic_coordinates qeNum noMissing_qeNum p e
      ⟨g.1 hs, g.2.1 hs, g.2.2.2.1 hs⟩,
   fun mode p e hs =>
      let g := generic_coordinates (fbNum mode) (noMissing_fbNum mode) p e
      ⟨g.1 hs, g.2.1 hs, g.2.2.2.1 hs⟩⟩

/-- a bare number is accepted in place of a point exactly for expressions with at most one
variable … -/
theorem single_variable_accepts_iff (e : Expr ℝ) :
    (∃ x, singleVarName e = .ok x) ↔ ∀ x y, Occurs x e → Occurs y e → x = y := by
  rw [singleVarName_ok_iff, vars_length_le_one_iff]

/-- … and `Derivative` accepts exactly such expressions -/
theorem derivative_accepts_iff (e : Expr ℝ) :
    (∃ D, DerivativeObj.new realNum e false = .ok D) ↔ e.vars.length ≤ 1 := by
  rw [← singleVarName_ok_iff]
  constructor
  · rintro ⟨D, h⟩
    obtain ⟨x, hx, _⟩ := R.bind_eq_ok_iff.mp h
    exact ⟨x, hx⟩
  · rintro ⟨x, hx⟩
    exact ⟨_, by rw [DerivativeObj.new, hx]; rfl⟩

/-- non-vacuity: an expression over two of three supplied coordinates -/
example :
    let e : Expr ℝ := mkAdd [mkVar "x", mkMul [mkVar "y", mkVar "x"]]
    WF e ∧ Supp [("z", (1 : ℝ)), ("y", 2), ("x", 3)] e ∧ ¬ Supp [("z", (1 : ℝ)), ("x", 3)] e := by
  simp [WF, WFList, Supp, SuppList, Point.get?]

end Smooth
