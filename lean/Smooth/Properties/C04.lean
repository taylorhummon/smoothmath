/-
C04 — Reverse-mode gradient equals the true partials for every variable at once.

`revG realNum` is the model of `_compute_numeric_partials` (multiplier passing into the accumulator
dictionary); `numericPartials` of `_numeric_partials` (seed 1, read back every variable of `e`),
`LocatedObj.new/component` and `DifferentialObj.at` of the public objects.  The true partial,
`truePartial p y e` (Proofs/TruePartial), is `deriv` of the denotation along the coordinate `y`.
-/
import Smooth.Proofs.TruePartial

namespace Smooth
open Expr

theorem fwd_is_truePartial (p : Point ℝ) (y : String) (e : Expr ℝ) (hwf : WF e) (hs : Supp p e)
    (hd : Dom (valOf p) e) : fwdG realNum p y e = .ok (truePartial p y e) :=
  tp_fwd_is_truePartial p y e hwf hs hd

/-- C04 (one traversal).  From any accumulator and with any multiplier `m`, one reverse-mode
traversal of an expression defined at the point adds `m ·` (true partial) to the entry of every
variable simultaneously — a variable occurring several times (in different arguments, or through a
shared sub-expression, which in the model is the same sub-tree occurring twice) receives the sum of
its contributions because that sum is what the true partial of the whole tree is. -/
theorem rev_adds_true_partials (p : Point ℝ) (e : Expr ℝ) (hwf : WF e) (hs : Supp p e)
    (hd : Dom (valOf p) e) (m : ℝ) (acc : Acc ℝ) :
    ∃ acc', revG realNum p e m acc = .ok acc' ∧
      ∀ y, getA acc' y = getA acc y + m * truePartial p y e :=
  tp_rev_adds_true_partials p e hwf hs hd m acc

/-- `_numeric_partials(point)` : every listed variable reads its true partial -/
theorem numericPartials_true (p : Point ℝ) (e : Expr ℝ) (hwf : WF e) (hs : Supp p e)
    (hd : Dom (valOf p) e) :
    ∃ d, numericPartials realNum p e = .ok d ∧
      ∀ y, Acc.get? d y = if y ∈ e.vars then some (truePartial p y e) else none :=
  tp_numericPartials_true p e hwf hs hd

/-- a variable that does not occur has true partial 0 (so the default `0` of
`LocatedDifferential.component` is the true partial as well) -/
theorem truePartial_not_occurring (p : Point ℝ) (y : String) (e : Expr ℝ) (hy : ¬ Occurs y e) :
    truePartial p y e = 0 :=
  tp_truePartial_not_occurring p y e hy

/-- C04 (public objects).  `LocatedDifferential(e, p).component(y)` is the true partial for every
queried variable, occurring or not. -/
theorem located_component_true (p : Point ℝ) (e : Expr ℝ) (hwf : WF e) (hs : Supp p e)
    (hd : Dom (valOf p) e) (y : String) :
    ∃ L, LocatedObj.new realNum e p = .ok L ∧ L.component realNum y = truePartial p y e :=
  tp_located_component_true p e hwf hs hd y

/-- `Differential(e).at(p)` (not computed early) is `LocatedDifferential(e, p)` after checking that
the expression is defined at the point -/
theorem differential_late_at (p : Point ℝ) (e : Expr ℝ) (hwf : WF e) (hs : Supp p e)
    (hd : Dom (valOf p) e) :
    (DifferentialObj.mk e none).at realNum p = LocatedObj.new realNum e p :=
  tp_differential_late_at p e hwf hs hd

/-- non-vacuity: a three-factor product with a zero factor and a repeated variable -/
example :
    let e : Expr ℝ := mkMul [mkVar "x", mkConst 0, mkAdd [mkVar "x", mkVar "y"]]
    let p : Point ℝ := [("y", 2), ("x", 3)]
    WF e ∧ Supp p e ∧ Dom (valOf p) e := by
  simp [WF, WFList, Supp, SuppList, Dom, DomList, Point.get?]

end Smooth
