import Smooth.Model.Basic
import Smooth.Model.MathFunctions
import Smooth.Model.Eval
import Smooth.Model.Numeric
import Smooth.Model.Symbolic
import Smooth.Model.Driver
import Smooth.Model.Objects
import Smooth.Model.Routes
import Smooth.Model.Surface
import Smooth.Model.Instances
import Smooth.Model.Heap
import Smooth.Real.Instance
import Smooth.Real.Spec
import Smooth.Proofs.Attr
import Smooth.Proofs.Base
import Smooth.Proofs.ObjEqns
import Smooth.Proofs.Shape
import Smooth.Proofs.RuleInv
import Smooth.Proofs.Param
import Smooth.Proofs.Acc
import Smooth.Proofs.NodeView
import Smooth.Proofs.SymClosed
import Smooth.Proofs.Eval
import Smooth.Proofs.Vars
import Smooth.Proofs.Refines
import Smooth.Proofs.Calculus
import Smooth.Proofs.Forward
import Smooth.Proofs.SRoot
import Smooth.Proofs.Construct
import Smooth.Proofs.WFSym
import Smooth.Proofs.Equality
import Smooth.Proofs.RulesUnary
import Smooth.Proofs.Print
import Smooth.Proofs.Heap
import Smooth.Proofs.Coords
import Smooth.Proofs.NoMissingInst
import Smooth.Proofs.Order
import Smooth.Proofs.Reverse
import Smooth.Proofs.TruePartial
import Smooth.Proofs.ListSem
import Smooth.Proofs.SRootMul
import Smooth.Proofs.RulesNary
import Smooth.Proofs.DriverSound
import Smooth.Proofs.MeasureDefs
import Smooth.Proofs.MeasureRules
import Smooth.Proofs.Measure
import Smooth.Proofs.Settled
import Smooth.Proofs.RatHom
import Smooth.Proofs.FlagFresh
import Smooth.Proofs.FlagSound
import Smooth.Proofs.FlagIndep
import Smooth.Proofs.FlagIndepNorm
import Smooth.Proofs.SymReverse
import Smooth.Proofs.SymForward
import Smooth.Proofs.Replay
import Smooth.Proofs.SymForwardRun
import Smooth.Proofs.Routes
import Smooth.Proofs.RoutesRun
import Smooth.Properties.C01
import Smooth.Properties.C02
import Smooth.Properties.C03
import Smooth.Properties.C04
import Smooth.Properties.C05
import Smooth.Properties.C06
import Smooth.Properties.C07
import Smooth.Properties.C08
import Smooth.Properties.C09
import Smooth.Properties.C10
import Smooth.Properties.C11
import Smooth.Properties.C12
import Smooth.Properties.C13
import Smooth.Properties.C14
import Smooth.Properties.C15
import Smooth.Properties.C16
import Smooth.Properties.C17
import Smooth.Properties.C18
import Smooth.Proofs.NoEvenRoot
import Smooth.Proofs.NoEvenRootSym
import Smooth.Proofs.NoEvenRootOK
import Smooth.Properties.C08odd
import Smooth.Proofs.Objects
import Smooth.Properties.C12obj
import Smooth.Proofs.ObjHistory
import Smooth.Properties.C09obj
import Smooth.Proofs.PointDict
import Smooth.Properties.C13point
import Smooth.Proofs.WFDriver
import Smooth.Proofs.WFRoutes
import Smooth.Proofs.WFObjects
import Smooth.Proofs.WFFuel
import Smooth.Proofs.WFFuelSym
import Smooth.Properties.C17routes
